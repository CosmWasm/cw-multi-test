import CwMt.Model.Sha256
import CwMt.Model.Bech32
/-
  CwMt.Model.Address — how the crate derives addresses and default checksums, with SHA-256 concrete:

    classic contract address    /repo/src/addresses.rs `instantiate_address` + `contract_address`
    salted contract address     cosmwasm_std::instantiate2_address (called by `predictable_contract_address`)
    default checksum            /repo/src/checksums.rs `SimpleChecksumGenerator` = Checksum::generate("contract code {id}")
    addresses made from names   `addr_make` of MockApi / MockApiBech32 / MockApiBech32m

  The wasm driver recomputes every `bind*` declaration of a case with these functions, so the values the
  implementation declares are checked rather than trusted (slices with the default or a `MockApiBech` Api).
-/
namespace CwMt.Address
open CwMt CwMt.Bech32

def ascii (s : String) : List UInt8 := s.toUTF8.toList

/-- `hash("module", key)` of ADR-028 -/
def moduleHash (key : List UInt8) : List UInt8 :=
  Sha256.digest (Sha256.digest (ascii "module") ++ key)

/-- `instantiate_address(code_id, instance_id)`: canonical classic address -/
def classicCanonical (codeId instanceId : Nat) : List UInt8 :=
  moduleHash (ascii "wasm" ++ [0] ++ Sha256.be64 codeId ++ Sha256.be64 instanceId)

/-- `SimpleAddressGenerator::contract_address` = `api.addr_humanize(instantiate_address(..))` -/
def classicAddr (v : Variant) (pfx : List Char) (codeId instanceId : Nat) : Outcome (List Char) :=
  addrHumanize v pfx (classicCanonical codeId instanceId)

/-- `instantiate2_address(checksum, creator, salt)` (empty `msg`) -/
def instantiate2Canonical (checksum creator salt : List UInt8) : Outcome (List UInt8) :=
  if checksum.length ≠ 32 then .err
  else if salt.isEmpty || salt.length > 64 then .err
  else .ok (moduleHash (ascii "wasm" ++ [0] ++
    Sha256.be64 checksum.length ++ checksum ++ Sha256.be64 creator.length ++ creator ++
    Sha256.be64 salt.length ++ salt ++ Sha256.be64 0))

/-- `predictable_contract_address`: the creator arrives canonicalised by the Api -/
def saltedAddr (v : Variant) (pfx : List Char) (checksum : List UInt8) (creator : List Char) (salt : List UInt8) :
    Outcome (List Char) :=
  match addrCanonicalize v pfx creator with
  | .ok c =>
    match instantiate2Canonical checksum c salt with
    | .ok a => addrHumanize v pfx a
    | .err => .err
    | .panic => .panic
    | .outOfFuel => .outOfFuel
  | .err => .err
  | .panic => .panic
  | .outOfFuel => .outOfFuel

/-- `SimpleChecksumGenerator::checksum(creator, code_id)` -/
def defaultChecksum (codeId : Nat) : List UInt8 :=
  Sha256.digest (ascii ("contract code " ++ toString codeId))

/-- `addr_make(name)` with the real hash -/
def make (v : Variant) (pfx : List Char) (name : String) : Outcome (List Char) :=
  addrMake Sha256.digest v pfx (ascii name)

end CwMt.Address
