import CwMt.Model.Basic
/-
  CwMt.Model.Sha256 — SHA-256 (FIPS 180-4), executable, over byte lists. The crate derives every address and
  default checksum from it (`addr_make`, `instantiate_address` in /repo/src/addresses.rs,
  `cosmwasm_std::instantiate2_address`, `Checksum::generate` in /repo/src/checksums.rs); with this module the
  model computes those values itself instead of being told them by the implementation.
-/
namespace CwMt.Sha256

def K : Array UInt32 := #[
  0x428a2f98, 0x71374491, 0xb5c0fbcf, 0xe9b5dba5, 0x3956c25b, 0x59f111f1, 0x923f82a4, 0xab1c5ed5,
  0xd807aa98, 0x12835b01, 0x243185be, 0x550c7dc3, 0x72be5d74, 0x80deb1fe, 0x9bdc06a7, 0xc19bf174,
  0xe49b69c1, 0xefbe4786, 0x0fc19dc6, 0x240ca1cc, 0x2de92c6f, 0x4a7484aa, 0x5cb0a9dc, 0x76f988da,
  0x983e5152, 0xa831c66d, 0xb00327c8, 0xbf597fc7, 0xc6e00bf3, 0xd5a79147, 0x06ca6351, 0x14292967,
  0x27b70a85, 0x2e1b2138, 0x4d2c6dfc, 0x53380d13, 0x650a7354, 0x766a0abb, 0x81c2c92e, 0x92722c85,
  0xa2bfe8a1, 0xa81a664b, 0xc24b8b70, 0xc76c51a3, 0xd192e819, 0xd6990624, 0xf40e3585, 0x106aa070,
  0x19a4c116, 0x1e376c08, 0x2748774c, 0x34b0bcb5, 0x391c0cb3, 0x4ed8aa4a, 0x5b9cca4f, 0x682e6ff3,
  0x748f82ee, 0x78a5636f, 0x84c87814, 0x8cc70208, 0x90befffa, 0xa4506ceb, 0xbef9a3f7, 0xc67178f2]

def rotr (x : UInt32) (n : UInt32) : UInt32 := (x >>> n) ||| (x <<< (32 - n))

structure H8 where
  a : UInt32
  b : UInt32
  c : UInt32
  d : UInt32
  e : UInt32
  f : UInt32
  g : UInt32
  h : UInt32

def init : H8 :=
  ⟨0x6a09e667, 0xbb67ae85, 0x3c6ef372, 0xa54ff53a, 0x510e527f, 0x9b05688c, 0x1f83d9ab, 0x5be0cd19⟩

def be32 (b0 b1 b2 b3 : UInt8) : UInt32 :=
  (b0.toUInt32 <<< 24) ||| (b1.toUInt32 <<< 16) ||| (b2.toUInt32 <<< 8) ||| b3.toUInt32

/-- the 16 message words of one 64-byte block (missing bytes read as 0; callers pass whole blocks) -/
def wordsOf : List UInt8 → List UInt32
  | b0 :: b1 :: b2 :: b3 :: rest => be32 b0 b1 b2 b3 :: wordsOf rest
  | _ => []

/-- message schedule: extends the 16 words to 64 -/
def schedule (w : Array UInt32) : Array UInt32 := Id.run do
  let mut w := w
  for i in [16:64] do
    let w15 := w[i - 15]!
    let w2 := w[i - 2]!
    let s0 := rotr w15 7 ^^^ rotr w15 18 ^^^ (w15 >>> 3)
    let s1 := rotr w2 17 ^^^ rotr w2 19 ^^^ (w2 >>> 10)
    w := w.push (w[i - 16]! + s0 + w[i - 7]! + s1)
  return w

def compress (st : H8) (block : List UInt8) : H8 := Id.run do
  let w := schedule (wordsOf block).toArray
  let mut s := st
  for i in [0:64] do
    let S1 := rotr s.e 6 ^^^ rotr s.e 11 ^^^ rotr s.e 25
    let ch := (s.e &&& s.f) ^^^ ((~~~ s.e) &&& s.g)
    let t1 := s.h + S1 + ch + K[i]! + w[i]!
    let S0 := rotr s.a 2 ^^^ rotr s.a 13 ^^^ rotr s.a 22
    let maj := (s.a &&& s.b) ^^^ (s.a &&& s.c) ^^^ (s.b &&& s.c)
    let t2 := S0 + maj
    s := ⟨t1 + t2, s.a, s.b, s.c, s.d + t1, s.e, s.f, s.g⟩
  return ⟨st.a + s.a, st.b + s.b, st.c + s.c, st.d + s.d, st.e + s.e, st.f + s.f, st.g + s.g, st.h + s.h⟩

def be64 (n : Nat) : List UInt8 :=
  [56, 48, 40, 32, 24, 16, 8, 0].map fun s => UInt8.ofNat ((n >>> s) % 256)

/-- padding: 0x80, zeros up to 56 mod 64, the bit length as 64-bit big-endian -/
def pad (msg : List UInt8) : List UInt8 :=
  let l := msg.length
  let z := (64 - (l + 9) % 64) % 64
  msg ++ [0x80] ++ List.replicate z 0 ++ be64 (l * 8)

def blocks : Nat → List UInt8 → H8 → H8
  | 0, _, st => st
  | n + 1, bs, st => blocks n (bs.drop 64) (compress st (bs.take 64))

def bytesOf32 (x : UInt32) : List UInt8 :=
  [(x >>> 24).toUInt8, (x >>> 16).toUInt8, (x >>> 8).toUInt8, x.toUInt8]

def digest (msg : List UInt8) : List UInt8 :=
  let p := pad msg
  let st := blocks (p.length / 64) p init
  bytesOf32 st.a ++ bytesOf32 st.b ++ bytesOf32 st.c ++ bytesOf32 st.d ++
  bytesOf32 st.e ++ bytesOf32 st.f ++ bytesOf32 st.g ++ bytesOf32 st.h

end CwMt.Sha256
