import CwMt.Proofs.Engine_Call
/-
  CwMt.Proofs.Engine_Run — the one induction over whole executions of the engine, `Runs_engine`: each of `execute` /
  `processResponse` / `executeSubmsg` / `reply` satisfies `Runs I`, for every relation `I` closed under the engine's steps
  (`StepInv`); a result is read off by `Runs.grows`, `.calls`, `.ok`, `.related`, `.observer`. Namespace `EngineInv`: this
  file holds the induction and the two instances that need no facts about the modules (`trivInv`, `frameInv`);
  `CwMt/Proofs/EngineInv.lean` holds the bank and the registry instance.
-/
namespace CwMt.EngineInv
open CwMt CwMt.Engine
variable {E : Type}

/-- A relation `R top ch new ch'` ("starting on `ch` with message sender `top`, the invocations `new`
were recorded and the surviving state is `ch'`") closed under the engine's atomic steps, sequential
composition, rollback (a failed sub-message's invocations stay in the trace, its state is dropped) and
the hand-over of the sender role to an invoked contract. -/
structure StepInv (cfg : Config E) (blk : Block) where
  R : Addr → Chain E → Trace → Chain E → Prop
  trans : ∀ {top ch ch1 ch2 n1 n2}, R top ch n1 ch1 → R top ch1 n2 ch2 → R top ch (n1 ++ n2) ch2
  /-- rollback: what was recorded by a dropped sub-transaction only extends the trace -/
  skip : ∀ {top ch ch' n2} (n1 : Trace), R top ch n2 ch' → R top ch (n1 ++ n2) ch'
  refl : ∀ top ch, R top ch [] ch
  bank : ∀ {ch ch' s m r}, bankExecute ch s m = .ok (r, ch') → R s ch [] ch'
  ext : ∀ {k ch s p r ch'}, cfg.extExec k ch blk s p = .ok (r, ch') → R s ch [] ch'
  admin : ∀ {ch ch' s c a r}, updateAdmin cfg ch s c a = .ok (r, ch') → R s ch [] ch'
  funds : ∀ {ch ch' s c f}, sendFunds ch s c f = .ok ch' → R s ch [] ch'
  register : ∀ {ch ch' codeId s admin label created salt addr},
    registerContract cfg ch codeId s admin label created salt = .ok (addr, ch') → R s ch [] ch'
  migrate : ∀ {ch s c cd} (n : Nat), ch.contracts.get? c = some cd → cd.admin = some s →
    R s ch [] { ch with contracts := ch.contracts.set c { cd with codeId := n } }
  /-- An entry point of `addr` ran, then `addr` acted as sender. `own'` is arbitrary: the callee may write anything in
  its own window. Nothing is assumed of `e.entry`: an instance cannot use what the entry carries (the attached funds, say). -/
  call : ∀ {top ch addr own' e n ch3}, e.callee = addr →
    R addr { ch with cstore := ch.cstore.set addr own' } n ch3 → R top ch (e :: n) ch3

section
variable {cfg : Config E} {blk : Block}

theorem StepInv.quiet (I : StepInv cfg blk) {s : Addr} {ch ch' : Chain E} (h : Quiet cfg blk s ch ch') :
    I.R s ch [] ch' := by
  induction h with
  | bank h => exact I.bank h
  | ext h => exact I.ext h
  | admin h => exact I.admin h
  | funds h => exact I.funds h
  | register h => exact I.register h
  | migrate n hc ha => exact I.migrate n hc ha
  | trans _ _ h1 h2 => exact I.trans h1 h2

/-- an invariant whose quiet steps all hold for one reason -/
def StepInv.ofQuiet (R : Addr → Chain E → Trace → Chain E → Prop)
    (trans : ∀ {top ch ch1 ch2 n1 n2}, R top ch n1 ch1 → R top ch1 n2 ch2 → R top ch (n1 ++ n2) ch2)
    (skip : ∀ {top ch ch' n2} (n1 : Trace), R top ch n2 ch' → R top ch (n1 ++ n2) ch')
    (refl : ∀ top ch, R top ch [] ch)
    (quiet : ∀ {s ch ch'}, Quiet cfg blk s ch ch' → R s ch [] ch')
    (call : ∀ {top ch addr own' e n ch3}, e.callee = addr →
      R addr { ch with cstore := ch.cstore.set addr own' } n ch3 → R top ch (e :: n) ch3) :
    StepInv cfg blk :=
  { R, trans, skip, refl, call, bank := fun h => quiet (.bank h), ext := fun h => quiet (.ext h),
    admin := fun h => quiet (.admin h), funds := fun h => quiet (.funds h),
    register := fun h => quiet (.register h), migrate := fun n hc ha => quiet (.migrate n hc ha) }

/-- the invariant that says nothing: for facts about the trace alone -/
def trivInv (cfg : Config E) (blk : Block) : StepInv cfg blk :=
  .ofQuiet (fun _ _ _ _ => True) (fun _ _ => trivial) (fun _ _ => trivial) (fun _ _ => trivial)
    (fun _ => trivial) (fun _ _ => trivial)

def frameInv (cfg : Config E) (blk : Block) (hf : ExtFrame cfg) : StepInv cfg blk :=
  .ofQuiet (fun _ ch new ch' => ∀ a, (∀ e ∈ new, e.callee ≠ a) → ch'.cstore.get? a = ch.cstore.get? a)
    (fun h1 h2 a ha => (h2 a fun e he => ha e (List.mem_append_right _ he)).trans
      (h1 a fun e he => ha e (List.mem_append_left _ he)))
    (fun n1 h a ha => h a fun e he => ha e (List.mem_append_right n1 he))
    (fun _ _ _ _ => rfl)
    (fun h a _ => by rw [h.cstore hf])
    (fun he h a ha => (h a fun e' h' => ha e' (List.mem_cons_of_mem _ h')).trans
      (AMap.get?_set_ne _ _ fun e => ha _ List.mem_cons_self (he.trans e.symm)))

/-- What a message of `top` can record: every invocation is shown its own address and the block, is told
`top` as sender (if it is told one), and is followed by what the callee's own messages recorded. -/
inductive Calls (blk : Block) : Addr → Trace → Prop
  | nil {top} : Calls blk top []
  | append {top a b} : Calls blk top a → Calls blk top b → Calls blk top (a ++ b)
  | call {top e n} : EnvOK blk e → (∀ x, e.entry.sender? = some x → x = top) → Calls blk e.callee n →
      Calls blk top (e :: n)

theorem Calls.env {top : Addr} {new : Trace} (h : Calls blk top new) : ∀ e ∈ new, EnvOK blk e := by
  induction h with
  | nil => intro e he; cases he
  | append _ _ ih1 ih2 => exact fun e he => (List.mem_append.1 he).elim (ih1 e) (ih2 e)
  | call he _ _ ih =>
    intro e' h
    rcases List.mem_cons.1 h with rfl | h
    · exact he
    · exact ih e' h

theorem Calls.senders {top : Addr} {new : Trace} (h : Calls blk top new) : SendersFrom top new := by
  induction h with
  | nil => intro i e s hi; cases hi
  | @append top a b _ _ ha hb =>
    intro i e s hi hs
    by_cases hlt : i < a.length
    · rw [List.getElem?_append_left hlt] at hi
      rcases ha i e s hi hs with h | ⟨j, e', hj, hje, hc⟩
      · exact Or.inl h
      · exact Or.inr ⟨j, e', hj, (List.getElem?_append_left (Nat.lt_trans hj hlt)).trans hje, hc⟩
    · rw [List.getElem?_append_right (Nat.le_of_not_lt hlt)] at hi
      rcases hb (i - a.length) e s hi hs with h | ⟨j, e', hj, hje, hc⟩
      · exact Or.inl h
      · refine Or.inr ⟨a.length + j, e', Nat.add_lt_of_lt_sub' hj, ?_, hc⟩
        rw [List.getElem?_append_right (Nat.le_add_right _ _), Nat.add_sub_cancel_left]
        exact hje
  | @call top e n _ he _ hb =>
    intro i e' s hi hs
    cases i with
    | zero => cases hi; exact Or.inl (he s hs)
    | succ i =>
      rw [List.getElem?_cons_succ] at hi
      rcases hb i e' s hi hs with h | ⟨j, e'', hj, hje, hc⟩
      · exact Or.inr ⟨0, e, Nat.succ_pos i, rfl, h.symm⟩
      · exact Or.inr ⟨j + 1, e'', Nat.succ_lt_succ hj, List.getElem?_cons_succ.trans hje, hc⟩

/-- what `Runs_engine` shows of each engine function, read as a function of the trace handed in -/
def Runs {α : Type} (I : StepInv cfg blk) (top : Addr) (ch : Chain E) (f : Trace → Outcome (α × Chain E) × Trace) :
    Prop :=
  ∃ o new, (∀ tr, f tr = (o, tr ++ new)) ∧ Calls blk top new ∧ ∀ a ch', o = .ok (a, ch') → I.R top ch new ch'

variable {α : Type} {I : StepInv cfg blk} {top : Addr} {ch : Chain E} {f g : Trace → Outcome (α × Chain E) × Trace}

theorem Runs.congr (h : Runs I top ch f) (e : ∀ tr, g tr = f tr) : Runs I top ch g := by
  obtain ⟨o, n, hf, r⟩ := h
  exact ⟨o, n, fun tr => (e tr).trans (hf tr), r⟩

theorem Runs.grows (h : Runs I top ch f) (tr : Trace) : ∃ new, (f tr).2 = tr ++ new := by
  obtain ⟨o, n, hf, _⟩ := h
  exact ⟨n, by rw [hf]⟩

theorem Runs.calls (h : Runs I top ch f) {tr new : Trace} (e : (f tr).2 = tr ++ new) : Calls blk top new := by
  obtain ⟨o, n, hf, hc, _⟩ := h
  rw [hf] at e
  exact List.append_cancel_left e ▸ hc

theorem Runs.ok (h : Runs I top ch f) {tr tr' : Trace} {a : α} {ch' : Chain E} (e : f tr = (.ok (a, ch'), tr')) :
    ∃ new, tr' = tr ++ new ∧ Calls blk top new ∧ I.R top ch new ch' := by
  obtain ⟨o, new, hf, hc, p⟩ := h
  rw [hf] at e
  cases e
  exact ⟨new, rfl, hc, p a ch' rfl⟩

theorem Runs.related (h : Runs I top ch f) {tr new : Trace} {a : α} {ch' : Chain E}
    (e : f tr = (.ok (a, ch'), tr ++ new)) : I.R top ch new ch' := by
  obtain ⟨new', e', _, hR⟩ := h.ok e
  exact List.append_cancel_left e' ▸ hR

theorem Runs.observer (h : Runs I top ch f) (tr₁ tr₂ : Trace) :
    (f tr₁).1 = (f tr₂).1 ∧ ∃ new, (f tr₁).2 = tr₁ ++ new ∧ (f tr₂).2 = tr₂ ++ new := by
  obtain ⟨o, n, hf, _⟩ := h
  exact ⟨by rw [hf tr₁, hf tr₂], n, by rw [hf tr₁], by rw [hf tr₂]⟩

theorem Runs_pure {o : Outcome (α × Chain E)} (h : ∀ a ch', o = .ok (a, ch') → I.R top ch [] ch') :
    Runs I top ch (fun tr => (o, tr)) :=
  ⟨o, [], fun tr => by rw [List.append_nil], .nil, h⟩

theorem Runs_ret (a : α) : Runs I top ch (fun tr => (.ok (a, ch), tr)) :=
  Runs_pure (by rintro _ _ ⟨⟩; exact I.refl top ch)

theorem Runs_err : Runs I top ch (fun tr => ((.err : Outcome (α × Chain E)), tr)) :=
  -- a bare `nofun` would also take apart the response and the state it introduces
  Runs_pure fun _ _ => nofun

theorem Runs_fail {o : Outcome (α × Chain E)} {n : Trace} (ho : o.isOk = false)
    (hf : ∀ tr, f tr = (o, tr ++ n)) (hc : Calls blk top n) : Runs I top ch f :=
  ⟨o, n, hf, hc, fun a c e => by rw [e] at ho; cases ho⟩

theorem Runs.after_quiet {ch1 : Chain E} (hq : Quiet cfg blk top ch ch1) (h : Runs I top ch1 f) : Runs I top ch f := by
  obtain ⟨o, n, hf, hc, hr⟩ := h
  exact ⟨o, n, hf, hc, fun r ch' e => I.trans (I.quiet hq) (hr r ch' e)⟩

/-- Sequencing: after a successful `f` the continuation runs on `f`'s result state (commit), after a failed one on the
state `f` started from (rollback). -/
theorem Runs.handle {okK : α → Chain E → Trace → EngineResult E} {errK : Trace → EngineResult E}
    (hf : Runs I top ch f) (hok : ∀ a ch1, Runs I top ch1 (okK a ch1)) (herr : Runs I top ch errK) :
    Runs I top ch (fun tr => handle (f tr) okK errK) := by
  obtain ⟨o, n, hf, hc, hr⟩ := hf
  obtain rfl : f = fun tr => (o, tr ++ n) := funext hf
  have cont : ∀ {ch1} {k : Trace → EngineResult E}, Runs I top ch1 k →
      (∀ {n2 ch'}, I.R top ch1 n2 ch' → I.R top ch (n ++ n2) ch') → Runs I top ch (fun tr => k (tr ++ n)) := by
    rintro ch1 k ⟨o2, n2, h2, hc2, hr2⟩ hR
    exact ⟨o2, n ++ n2, fun tr => (h2 _).trans (by rw [List.append_assoc]), hc.append hc2,
      fun r ch' e => hR (hr2 r ch' e)⟩
  cases o with
  | ok p => exact cont (hok p.1 p.2) (I.trans (hr p.1 p.2 rfl))
  | err => exact cont herr (I.skip n)
  | panic => exact Runs_fail (o := .panic) rfl (fun _ => rfl) hc
  | outOfFuel => exact Runs_fail (o := .outOfFuel) rfl (fun _ => rfl) hc

theorem Runs.mapResp {f : Trace → EngineResult E} (k : AppResponse → AppResponse) (h : Runs I top ch f) :
    Runs I top ch (fun tr => mapResp k (f tr)) :=
  (h.handle (fun r _ => Runs_ret (k r)) Runs_err).congr fun tr => mapResp_handle k (f tr)

theorem Runs_callThen {fuel : Nat}
    (hP : ∀ ch c r l, Runs I c ch (processResponse cfg blk fuel ch c r l))
    (top : Addr) (ch : Chain E) (addr : Addr) (en : Entry) (custom : Event)
    (hen : ∀ x, en.sender? = some x → x = top) :
    Runs I top ch (callThen cfg blk fuel ch addr en custom) := by
  unfold callThen
  rcases callContract_cases cfg blk ch addr en with ⟨_, h1⟩ | ⟨_, note, o, h1, h2⟩
  · simp only [h1]
    exact Runs_err
  · simp only [h1]
    have hc : ∀ {n}, Calls blk addr n → Calls blk top (⟨addr, en, contractEnv blk addr, note⟩ :: n) :=
      .call (e := ⟨addr, en, contractEnv blk addr, note⟩) ⟨rfl, rfl⟩ hen
    cases o with
    | ok p =>
      obtain ⟨own', e⟩ := h2 p.1 p.2 rfl
      obtain ⟨o2, n2, e2, c2, r2⟩ := hP p.2 addr (buildAppResponse addr custom p.1).1
        (buildAppResponse addr custom p.1).2
      exact ⟨o2, _ :: n2, fun tr => (e2 _).trans (by rw [List.append_assoc]; rfl), hc c2,
        fun r ch' ho => I.call rfl (e ▸ r2 r ch' ho)⟩
    | _ => exact Runs_fail rfl (fun _ => rfl) (hc .nil)

end

theorem Runs_engine {cfg : Config E} {blk : Block} (I : StepInv cfg blk) (fuel : Nat) :
    (∀ ch s m, Runs I s ch (execute cfg blk fuel ch s m)) ∧
    (∀ ch c r l, Runs I c ch (processResponse cfg blk fuel ch c r l)) ∧
    (∀ ch c sm, Runs I c ch (executeSubmsg cfg blk fuel ch c sm)) ∧
    (∀ ch c rp, Runs I c ch (reply cfg blk fuel ch c rp)) := by
  induction fuel with
  | zero =>
    have out : ∀ {top ch}, Runs I top ch fun tr => ((.outOfFuel, tr) : EngineResult E) := Runs_pure fun _ _ => nofun
    exact ⟨fun _ _ _ => out, fun _ _ _ _ => out, fun _ _ _ => out, fun _ _ _ => out⟩
  | succ fuel ih =>
    obtain ⟨ihE, ihP, ihS, ihR⟩ := ih
    refine ⟨fun ch s m => ?_, fun ch c r l => ?_, fun ch c sm => ?_, fun ch c rp => ?_⟩
    · rcases execute_cases cfg blk ch s m with ⟨o, ho, hq⟩ | ⟨k, ch1, addr, en, custom, hk, hq, hs⟩
      · exact (Runs_pure fun r ch' e => I.quiet (hq r ch' e)).congr (ho fuel)
      · exact (((Runs_callThen ihP s ch1 addr en custom hs).mapResp k).after_quiet hq).congr (hk fuel)
    · cases l with
      | nil => exact Runs_ret r
      | cons sm rest =>
        exact ((ihS ch c sm).handle (fun sr ch1 => ihP ch1 c _ rest) Runs_err).congr
          (processResponse_cons_handle cfg blk fuel ch c r sm rest)
    · refine ((ihE ch c sm.msg).handle (fun r ch1 => ?_) ?_).congr (executeSubmsg_handle cfg blk fuel ch c sm)
      · cases wantsReplyOnOk sm.replyOn with
        | true => exact (ihR ch1 c _).mapResp _
        | false => exact Runs_ret _
      · cases wantsReplyOnErr sm.replyOn with
        | true => exact ihR ch c _
        | false => exact Runs_err
    · exact (Runs_callThen ihP c ch c (.reply rp) _ fun _ hx => by cases hx).congr (reply_succ cfg blk fuel ch c rp)

section
variable {cfg : Config E} {blk : Block} (I : StepInv cfg blk) (fuel : Nat) (ch : Chain E)

theorem Runs_execute (s : Addr) (m : Msg) : Runs I s ch (execute cfg blk fuel ch s m) :=
  (Runs_engine I fuel).1 ch s m

theorem Runs_processResponse (c : Addr) (r : AppResponse) (l : List SubMsg) :
    Runs I c ch (processResponse cfg blk fuel ch c r l) :=
  (Runs_engine I fuel).2.1 ch c r l

theorem Runs_executeSubmsg (c : Addr) (sm : SubMsg) : Runs I c ch (executeSubmsg cfg blk fuel ch c sm) :=
  (Runs_engine I fuel).2.2.1 ch c sm

theorem Runs_reply (c : Addr) (rp : Reply) : Runs I c ch (reply cfg blk fuel ch c rp) :=
  (Runs_engine I fuel).2.2.2 ch c rp

end

theorem execute_related {cfg : Config E} {blk : Block} (I : StepInv cfg blk) {fuel : Nat}
    {ch ch' : Chain E} {s : Addr} {m : Msg} {tr tr' : Trace} {r : AppResponse}
    (h : execute cfg blk fuel ch s m tr = (.ok (r, ch'), tr')) :
    ∃ new, tr' = tr ++ new ∧ I.R s ch new ch' :=
  let ⟨new, e, _, hR⟩ := (Runs_execute I fuel ch s m).ok h
  ⟨new, e, hR⟩

end CwMt.EngineInv
