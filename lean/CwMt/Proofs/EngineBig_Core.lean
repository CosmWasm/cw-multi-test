import CwMt.Model.EngineBig
import CwMt.Proofs.Engine
/-
  CwMt.Proofs.EngineBig_Core — what the rules of the fuel-free judgements are derived from. `Ev g o`: the fuel-indexed
  outcome `g` is eventually `o ≠ outOfFuel`; for a fuel-monotone `g` (`FMono`) that `o` is unique and stable,
  `ev_succ` takes the first step of a run and `ev_bind` sequences two such families. `execO / procO / subO / repO` are
  the outcomes of the four engine functions as functions of the fuel alone (a run from the empty trace, which is the run
  from any trace: `*_fst`); their one-step equations hand the fuel that is left to a continuation (`procK`, `subK`), the
  form `ev_bind` takes.
-/
namespace CwMt.EngineBig
open CwMt CwMt.Engine
variable {E : Type}

def Ev (g : Nat → Out E) (o : Out E) : Prop := o ≠ .outOfFuel ∧ ∃ n, g n = o

def FMono (g : Nat → Out E) : Prop := ∀ n, g n ≠ .outOfFuel → g (n + 1) = g n

theorem FMono.le {g : Nat → Out E} (hm : FMono g) {n m : Nat} (h : g n ≠ .outOfFuel) (hle : n ≤ m) :
    g m = g n := by
  induction hle with
  | refl => rfl
  | step _ ih => rw [hm _ (by rw [ih]; exact h), ih]

theorem FMono.const (c : Out E) : FMono (fun _ => c) := fun _ _ => rfl

theorem Ev.stable {g : Nat → Out E} {o : Out E} (hm : FMono g) (h : Ev g o) : ∃ n, ∀ m, n ≤ m → g m = o := by
  obtain ⟨ho, n, rfl⟩ := h
  exact ⟨n, fun m hle => hm.le ho hle⟩

theorem Ev.det {g : Nat → Out E} {o₁ o₂ : Out E} (hm : FMono g) (h₁ : Ev g o₁) (h₂ : Ev g o₂) : o₁ = o₂ := by
  obtain ⟨n₁, s₁⟩ := h₁.stable hm
  obtain ⟨n₂, s₂⟩ := h₂.stable hm
  rw [← s₁ (max n₁ n₂) (Nat.le_max_left ..), s₂ (max n₁ n₂) (Nat.le_max_right ..)]

theorem ev_congr {g g' : Nat → Out E} {o : Out E} (h : ∀ n, g n = g' n) : Ev g o ↔ Ev g' o := by
  have : g = g' := funext h
  rw [this]

theorem ev_succ {g g' : Nat → Out E} {o : Out E} (h0 : g 0 = .outOfFuel) (hs : ∀ n, g (n + 1) = g' n) :
    Ev g o ↔ Ev g' o := by
  constructor
  · rintro ⟨ho, n, hn⟩
    cases n with
    | zero => rw [h0] at hn; exact absurd hn.symm ho
    | succ n => exact ⟨ho, n, (hs n).symm.trans hn⟩
  · rintro ⟨ho, n, hn⟩
    exact ⟨ho, n + 1, (hs n).trans hn⟩

theorem ev_const (c o : Out E) : Ev (fun _ => c) o ↔ (o = c ∧ o ≠ .outOfFuel) := by
  constructor
  · rintro ⟨ho, _, hn⟩; exact ⟨hn.symm, ho⟩
  · rintro ⟨rfl, ho⟩; exact ⟨ho, 0, rfl⟩

theorem ev_const_of_ne {c o : Out E} (hc : c ≠ .outOfFuel) : Ev (fun _ => c) o ↔ o = c := by
  rw [ev_const]
  exact ⟨fun h => h.1, fun h => ⟨h, by rw [h]; exact hc⟩⟩

/-- a step that fails at once: `err` and `panic` are the outcome, `outOfFuel` is none -/
theorem ev_fail {c o : Out E} (hc : c.isOk = false) :
    Ev (fun _ => c) o ↔ (match c with | .outOfFuel => False | _ => o = c) := by
  cases c with
  | ok p => cases hc
  | err => exact ev_const_of_ne nofun
  | panic => exact ev_const_of_ne nofun
  | outOfFuel => exact (ev_const _ _).trans ⟨fun h => h.2 h.1, False.elim⟩

theorem mapO_eq_outOfFuel (f : AppResponse → AppResponse) (o : Out E) : mapO f o = .outOfFuel ↔ o = .outOfFuel := by
  cases o with
  | ok p => obtain ⟨r, c⟩ := p; simp [mapO]
  | _ => simp [mapO]

theorem ev_mapO (f : AppResponse → AppResponse) (g : Nat → Out E) (o : Out E) :
    Ev (fun n => mapO f (g n)) o ↔ ∃ o', Ev g o' ∧ o = mapO f o' := by
  constructor
  · rintro ⟨ho, n, hn⟩
    refine ⟨g n, ⟨?_, n, rfl⟩, hn.symm⟩
    intro hg
    apply ho
    rw [← hn]
    exact (mapO_eq_outOfFuel f _).2 hg
  · rintro ⟨o', ⟨ho', n, hn⟩, rfl⟩
    exact ⟨fun h => ho' ((mapO_eq_outOfFuel f _).1 h), n, by rw [← hn]⟩

theorem FMono.map {g : Nat → Out E} (f : AppResponse → AppResponse) (hg : FMono g) :
    FMono (fun n => mapO f (g n)) := fun n h => by
  show mapO f (g (n + 1)) = mapO f (g n)
  rw [hg n fun h' => h ((mapO_eq_outOfFuel f _).2 h')]

theorem mergeReply_eq_mapO (r : AppResponse) (o : Out E) :
    mergeReply r o = mapO (fun rr => { events := r.events ++ rr.events, data := rr.data }) o := by
  cases o <;> rfl

/-- The fuel that suffices for the whole is the larger of the two (`FMono.le` on each); `hoof`: `k` does not answer for a
run that ran out. -/
theorem ev_bind {g : Nat → Out E} {k : Out E → Nat → Out E} {o : Out E}
    (hg : FMono g) (hk : ∀ o₁, FMono (k o₁)) (hoof : ∀ n, k .outOfFuel n = .outOfFuel) :
    Ev (fun n => k (g n) n) o ↔ ∃ o₁, Ev g o₁ ∧ Ev (k o₁) o := by
  constructor
  · rintro ⟨ho, n, hn⟩
    exact ⟨g n, ⟨fun h => ho (by rw [← hn]; show k (g n) n = _; rw [h, hoof]), n, rfl⟩, ho, n, hn⟩
  · rintro ⟨o₁, ⟨h₁, n₁, rfl⟩, ho, n₂, rfl⟩
    refine ⟨ho, max n₁ n₂, ?_⟩
    show k (g (max n₁ n₂)) (max n₁ n₂) = _
    rw [hg.le h₁ (Nat.le_max_left ..), (hk _).le ho (Nat.le_max_right ..)]

theorem exists_out_iff {P : Out E → Prop} (h : ¬ P .outOfFuel) :
    (∃ o, P o) ↔ (∃ r ch, P (.ok (r, ch))) ∨ P .err ∨ P .panic := by
  constructor
  · rintro ⟨⟨r, ch⟩ | _ | _ | _, hp⟩
    · exact .inl ⟨r, ch, hp⟩
    · exact .inr (.inl hp)
    · exact .inr (.inr hp)
    · exact absurd hp h
  · rintro (⟨r, ch, hp⟩ | hp | hp) <;> exact ⟨_, hp⟩

theorem ev_ite (b : Bool) (x y : Nat → Out E) (o : Out E) :
    Ev (fun n => if b = true then x n else y n) o ↔ (b = true ∧ Ev x o) ∨ (b = false ∧ Ev y o) := by
  cases b <;> simp

theorem FMono.ite {x y : Nat → Out E} (b : Bool) (hx : FMono x) (hy : FMono y) :
    FMono (fun n => if b = true then x n else y n) := by
  cases b
  · exact hy
  · exact hx

-- `Exec cfg blk ch s m o` unfolds to `Ev (execO cfg blk ch s m) o`, likewise `Proc` / `Sub` / `Rep`.

section
variable (cfg : Config E) (blk : Block)

def execO (ch : Chain E) (s : Addr) (m : Msg) (n : Nat) : Out E := (execute cfg blk n ch s m []).1
def procO (ch : Chain E) (c : Addr) (r : AppResponse) (l : List SubMsg) (n : Nat) : Out E :=
  (processResponse cfg blk n ch c r l []).1
def subO (ch : Chain E) (c : Addr) (sm : SubMsg) (n : Nat) : Out E := (executeSubmsg cfg blk n ch c sm []).1
def repO (ch : Chain E) (c : Addr) (rp : Reply) (n : Nat) : Out E := (reply cfg blk n ch c rp []).1

theorem execO_mono (ch : Chain E) (s : Addr) (m : Msg) : FMono (execO cfg blk ch s m) :=
  fun n h => congrArg Prod.fst ((fuel_le cfg blk (Nat.le_succ n)).execute ch s m [] h)
theorem procO_mono (ch : Chain E) (c : Addr) (r : AppResponse) (l : List SubMsg) : FMono (procO cfg blk ch c r l) :=
  fun n h => congrArg Prod.fst ((fuel_le cfg blk (Nat.le_succ n)).processResponse ch c r l [] h)
theorem subO_mono (ch : Chain E) (c : Addr) (sm : SubMsg) : FMono (subO cfg blk ch c sm) :=
  fun n h => congrArg Prod.fst ((fuel_le cfg blk (Nat.le_succ n)).executeSubmsg ch c sm [] h)
theorem repO_mono (ch : Chain E) (c : Addr) (rp : Reply) : FMono (repO cfg blk ch c rp) :=
  fun n h => congrArg Prod.fst ((fuel_le cfg blk (Nat.le_succ n)).reply ch c rp [] h)

theorem execute_fst (n : Nat) (ch : Chain E) (s : Addr) (m : Msg) (tr : Trace) :
    (execute cfg blk n ch s m tr).1 = execO cfg blk ch s m n :=
  ((EngineInv.Runs_execute (EngineInv.trivInv cfg blk) n ch s m).observer tr []).1
theorem processResponse_fst (n : Nat) (ch : Chain E) (c : Addr) (r : AppResponse) (l : List SubMsg) (tr : Trace) :
    (processResponse cfg blk n ch c r l tr).1 = procO cfg blk ch c r l n :=
  ((EngineInv.Runs_processResponse (EngineInv.trivInv cfg blk) n ch c r l).observer tr []).1
theorem executeSubmsg_fst (n : Nat) (ch : Chain E) (c : Addr) (sm : SubMsg) (tr : Trace) :
    (executeSubmsg cfg blk n ch c sm tr).1 = subO cfg blk ch c sm n :=
  ((EngineInv.Runs_executeSubmsg (EngineInv.trivInv cfg blk) n ch c sm).observer tr []).1
theorem reply_fst (n : Nat) (ch : Chain E) (c : Addr) (rp : Reply) (tr : Trace) :
    (reply cfg blk n ch c rp tr).1 = repO cfg blk ch c rp n :=
  ((EngineInv.Runs_reply (EngineInv.trivInv cfg blk) n ch c rp).observer tr []).1

theorem procO_succ_nil (n : Nat) (ch : Chain E) (c : Addr) (r : AppResponse) :
    procO cfg blk ch c r [] (n + 1) = .ok (r, ch) := by rfl

/-- how `process_response` goes on once the first sub-message has ended with `o₁`, on fuel `n` -/
def procK (c : Addr) (resp : AppResponse) (rest : List SubMsg) (o₁ : Out E) (n : Nat) : Out E :=
  match o₁ with
  | .ok (sr, ch₁) =>
    procO cfg blk ch₁ c { events := resp.events ++ sr.events, data := sr.data.orElse fun _ => resp.data } rest n
  | other => other

theorem procO_succ_cons (n : Nat) (ch : Chain E) (c : Addr) (resp : AppResponse) (sm : SubMsg)
    (rest : List SubMsg) :
    procO cfg blk ch c resp (sm :: rest) (n + 1) = procK cfg blk c resp rest (subO cfg blk ch c sm n) n := by
  unfold procO subO
  rw [processResponse_succ_cons]
  rcases executeSubmsg cfg blk n ch c sm [] with ⟨o, t⟩
  cases o with
  | ok p =>
    obtain ⟨sr, ch₁⟩ := p
    exact processResponse_fst cfg blk n _ _ _ _ t
  | _ => rfl

theorem procK_mono (c : Addr) (resp : AppResponse) (rest : List SubMsg) (o₁ : Out E) :
    FMono (procK cfg blk c resp rest o₁) := by
  rcases o₁ with ⟨sr, ch₁⟩ | _ | _ | _
  · exact procO_mono cfg blk ch₁ c _ rest
  all_goals exact FMono.const _

/-- how `execute_submsg` goes on once the message has ended with `o₁`, on fuel `n` -/
def subK (ch : Chain E) (c : Addr) (sm : SubMsg) (o₁ : Out E) (n : Nat) : Out E :=
  match o₁ with
  | .ok (r, ch₁) =>
    if wantsReplyOnOk sm.replyOn then
      mapO (fun rr => { events := r.events ++ rr.events, data := rr.data })
        (repO cfg blk ch₁ c ⟨sm.id, sm.payload, .ok r.events r.data⟩ n)
    else .ok ({ r with data := none }, ch₁)
  | .err => if wantsReplyOnErr sm.replyOn then repO cfg blk ch c ⟨sm.id, sm.payload, .err⟩ n else .err
  | .panic => .panic
  | .outOfFuel => .outOfFuel

theorem subO_succ (n : Nat) (ch : Chain E) (c : Addr) (sm : SubMsg) :
    subO cfg blk ch c sm (n + 1) = subK cfg blk ch c sm (execO cfg blk ch c sm.msg n) n := by
  unfold subO execO
  rw [executeSubmsg_handle]
  rcases execute cfg blk n ch c sm.msg [] with ⟨o, t⟩
  cases o with
  | ok p =>
    obtain ⟨r, ch₁⟩ := p
    dsimp only [handle, subK]
    cases wantsReplyOnOk sm.replyOn with
    | false => rfl
    | true => exact (mapResp_fst _ _).trans (congrArg _ (reply_fst cfg blk n ch₁ c _ t))
  | err =>
    dsimp only [handle, subK]
    cases wantsReplyOnErr sm.replyOn with
    | false => rfl
    | true => exact reply_fst cfg blk n ch c _ t
  | _ => rfl

theorem subK_mono (ch : Chain E) (c : Addr) (sm : SubMsg) (o₁ : Out E) : FMono (subK cfg blk ch c sm o₁) := by
  rcases o₁ with ⟨r, ch₁⟩ | _ | _ | _
  · exact .ite _ ((repO_mono cfg blk _ _ _).map _) (.const _)
  · exact .ite _ (repO_mono cfg blk _ _ _) (.const _)
  all_goals exact FMono.const _

theorem callThen_fst (n : Nat) (ch : Chain E) (addr : Addr) (en : Entry) (custom : Event) (tr : Trace) :
    (callThen cfg blk n ch addr en custom tr).1 =
      (match (callContract cfg blk ch addr en []).1 with
       | .ok (resp, ch₂) =>
         procO cfg blk ch₂ addr (buildAppResponse addr custom resp).1 (buildAppResponse addr custom resp).2 n
       | .err => .err
       | .panic => .panic
       | .outOfFuel => .outOfFuel) := by
  unfold callThen
  rcases callContract_cases cfg blk ch addr en with ⟨_, hc⟩ | ⟨_, note, oc, hc, _⟩ <;> rw [hc tr, hc []]
  cases oc with
  | ok p =>
    obtain ⟨resp, ch₂⟩ := p
    exact processResponse_fst cfg blk n _ _ _ _ _
  | _ => rfl

/-- the rule of `mapResp f (callThen …)`, the shape of every contract-calling arm of `execute` -/
theorem callThen_rule (f : AppResponse → AppResponse) (ch : Chain E) (addr : Addr) (en : Entry) (custom : Event)
    (o : Out E) :
    Ev (fun n => (mapResp f (callThen cfg blk n ch addr en custom [])).1) o ↔
      (match (callContract cfg blk ch addr en []).1 with
       | .ok (resp, ch₂) =>
         ∃ o', Proc cfg blk ch₂ addr (buildAppResponse addr custom resp).1 (buildAppResponse addr custom resp).2 o' ∧
           o = mapO f o'
       | .err => o = .err
       | .panic => o = .panic
       | .outOfFuel => False) := by
  rw [ev_congr (fun n => by rw [mapResp_fst, callThen_fst])]
  cases (callContract cfg blk ch addr en []).1 with
  | ok p => exact ev_mapO _ _ _
  | _ => exact ev_fail rfl

end

end CwMt.EngineBig
