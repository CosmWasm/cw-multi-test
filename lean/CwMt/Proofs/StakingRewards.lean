import CwMt.Proofs.Staking
import CwMt.Proofs.StakingBank
/-
  CwMt.Proofs.StakingRewards — C15 exact statements: crediting rewards does not change what the Delegation query shows
  (`shownReward_updateRewards`, `queryDelegation_updateRewards`), and a withdrawal pays exactly what was shown and touches
  nobody else (`WithdrawEffect`).
-/
namespace CwMt
namespace Staking
open KMap

variable {cfg : Cfg} {c c' : Chain} {a : Addr} {v : String}

/-- the query was adding the very term that is now credited -/
theorem shownReward_updateRewards {s s1 : SState} {now : Nat} (hi : SInv s) (hl : LastLe s now)
    (h : updateRewards s now v = .ok s1) (d : Addr) :
    ∃ vi vi1 vo, get? s.vinfo v = some vi ∧ get? s1.vinfo v = some vi1 ∧ s.validator? v = some vo ∧ vi1.last = now ∧
      shownReward s1 now (curShares s1 d v) vo vi1 = shownReward s now (curShares s d v) vo vi := by
  obtain ⟨vi, vo, hvi, hvo, ⟨hge, rfl⟩ | ⟨_, nr, hnr, rfl⟩⟩ := updateRewards_ok h
  · exact ⟨vi, vi, vo, hvi, hvi, hvo, Nat.le_antisymm (hl v vi hvi) hge, rfl⟩
  · refine ⟨vi, _, vo, hvi, get?_set_self _ _ _, hvo, rfl, ?_⟩
    rw [shownReward_uptodate _ now _ _ _ rfl, shownReward_eq _ hnr]
    cases hg : get? s.stakes (d, v) with
    | none =>
      have hg' : get? (credited s now v vi nr).stakes (d, v) = none := by rw [credited, get?_creditAll, hg]; rfl
      rw [curShares_of_none hg, curShares_of_none hg', shareOfRewards_dflt, Dec.add_zero]
    | some sh => rw [curShares_of_get? hg, curShares_of_get? (get?_credited nr hg (hi.mem_stakers hg hvi))]

theorem queryDelegation_updateRewards {s1 : SState} (hi : SInv c.st) (hl : LastLe c.st c.time)
    (h : updateRewards c.st c.time v = .ok s1) (d : Addr) (w : String) :
    queryDelegation cfg { c with st := s1 } d w = queryDelegation cfg c d w := by
  have ur := updateRewards_spec h
  by_cases e : w = v
  · subst e
    obtain ⟨vi, vi1, vo, hvi, hvi1, hvo, _, hsh⟩ := shownReward_updateRewards hi hl h d
    have hst : (curShares s1 d w).stake = (curShares c.st d w).stake := ur.stakeOf_eq d w
    rw [queryDelegation_eq d ((validator?_congr ur.validators w).trans hvo) hvi1, queryDelegation_eq d hvo hvi]
    -- both sides are `queryDelegation_eq`; `hsh` rewrites the reward, `hst` the stake
    exact hsh ▸ hst ▸ rfl
  · exact queryDelegation_congr ur.validators (ur.vinfo_other w e) (curShares_congr (ur.stakes_other e)) ur.info rfl

structure WithdrawEffect (cfg : Cfg) (c : Chain) (a : Addr) (v : String) (c' : Chain) : Prop where
  /-- `r` is the pending reward the Delegation query showed just before (also when the shown amount is 0) -/
  shown_before : ∃ vo vi r, c.st.validator? v = some vo ∧ get? c.st.vinfo v = some vi ∧
      shownReward c.st c.time (curShares c.st a v) vo vi = .ok r ∧ r ≠ 0 ∧
      Bank.mint c.bank (withdrawAddr c.st a) [⟨c.st.info.bondedDenom, r⟩] = some c'.bank ∧
      cfg.valid (withdrawAddr c.st a) = true
  reset : (curShares c'.st a v).rewards = Dec.zero ∧ (curShares c'.st a v).stake = (curShares c.st a v).stake
  shown_after : ∃ vo vi', c'.st.validator? v = some vo ∧ get? c'.st.vinfo v = some vi' ∧
      shownReward c'.st c'.time (curShares c'.st a v) vo vi' = .ok 0
  others : ∀ d2 w, (d2, w) ≠ (a, v) → queryDelegation cfg c' d2 w = queryDelegation cfg c d2 w
  frame : c'.st.queue = c.st.queue ∧ c'.st.withdraw = c.st.withdraw ∧ c'.time = c.time ∧
      (∀ w, w ≠ v → get? c'.st.vinfo w = get? c.st.vinfo w)

theorem withdrawRewards_effect (hi : SInv c.st)
    (hl : LastLe c.st c.time) (h : withdrawRewards cfg c a v = .ok c') : WithdrawEffect cfg c a v c' := by
  obtain ⟨s1, sh, bank, h1, hsh, hvalid, hb, rfl⟩ := withdrawRewards_ok h
  have ur := updateRewards_spec h1
  obtain ⟨vi, vi1, vo, hvi, hvi1, hvo, hlast, hsame⟩ := shownReward_updateRewards hi hl h1 a
  have hcur : curShares s1 a v = sh := curShares_of_get? hsh
  have hnew : curShares { s1 with stakes := KMap.set s1.stakes (a, v) { sh with rewards := Dec.zero } } a v
      = { sh with rewards := Dec.zero } := curShares_of_get? (get?_set_self _ _ _)
  have hwa : withdrawAddr s1 a = withdrawAddr c.st a := withdrawAddr_congr ur.withdraw a
  refine ⟨⟨vo, vi, sh.rewards.floor, hvo, hvi, ?_, ?_, ?_, ?_⟩, ?_,
    ⟨vo, vi1, (validator?_congr ur.validators v).trans hvo, hvi1, ?_⟩, ?_, ⟨ur.queue, ur.withdraw, rfl, ur.vinfo_other⟩⟩
  · rw [← hsame, shownReward_uptodate _ _ _ _ _ hlast, hcur]
  · -- the bank refuses to mint nothing
    intro hz
    rw [hz, BankFacts.mint_single_zero] at hb
    cases hb
  · rw [← hwa, ← ur.info]; exact hb
  · rw [← hwa]; exact hvalid
  · rw [hnew]; exact ⟨rfl, hcur ▸ ur.stakeOf_eq a v⟩
  · rw [shownReward_uptodate _ c.time _ vo vi1 hlast, hnew]; exact congrArg Outcome.ok Dec.floor_zero
  · intro d2 w hne
    rw [← queryDelegation_updateRewards (cfg := cfg) hi hl h1 d2 w]
    exact queryDelegation_congr rfl rfl (curShares_congr (get?_set_ne _ _ hne)) rfl rfl

end Staking
end CwMt
