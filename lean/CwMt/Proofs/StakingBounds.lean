import CwMt.Proofs.StakingBasic
import CwMt.Proofs.StakingArith
/-
  CwMt.Proofs.StakingBounds — C15: the credit of one reward update as a function of its inputs (`creditOf`; that
  `update_rewards` adds just this is `shareOfRewards_eq_creditOf` in StakingHistory), and the reward ledger of one delegation
  (`Ledger`) whose invariant `Ledger.Good` is the pair of rounding bounds summed over a history. No state of the model occurs
  here: `Ledger.run` is the abstract history, `track` (StakingHistory) the ledger of a model history. The arithmetic is in
  `StakingArith`; everything is stated with the denominators multiplied out (`Nat` only), one atomic being
  `P0 = 10^18·10^18·YEAR` on the scale on which the exact value `apr·T·(10^18 − c)·share` is an integer.
-/
namespace CwMt
namespace Staking

/-- `K` of the header of StakingArith at `o = 10^18`, `y = YEAR` -/
def creditOf (S A c sa T : Nat) : Nat :=
  (S * A * T / YEAR - S * A * T / YEAR * c / Dec.ONE) * sa / Dec.ONE / S

def P0 : Nat := Dec.ONE * Dec.ONE * YEAR

theorem P0_pos : 0 < P0 := by decide

/-- one reward update as seen by one delegator: validator total `S` (tokens), own share `sa` (atomics), `T` seconds -/
structure Ev where
  S : Nat
  sa : Nat
  T : Nat

/-- the side conditions of the bounds without the validator total; the invariant gives them for every shown delegation
(`TInv.ev_ok` in StakingHistory, from `TInv.floor_le_total` and `TInv.share_lt_total_succ`) -/
def Ev.ok (e : Ev) : Prop := 0 < e.S ∧ e.sa ≤ Dec.ONE * (e.S + 1)

inductive LStep where
  | credit (e : Ev)
  | withdraw

/-- the ledger: accumulator (atomics), whole tokens withdrawn, number of withdrawals, number of updates,
exact value accrued (times `P0`) -/
structure Ledger where
  acc : Nat := 0
  paid : Nat := 0
  w : Nat := 0
  n : Nat := 0
  exact : Nat := 0

def Ledger.step (A c : Nat) (l : Ledger) : LStep → Ledger
  | .credit e => { l with acc := l.acc + creditOf e.S A c e.sa e.T, n := l.n + 1,
                          exact := l.exact + A * e.T * (Dec.ONE - c) * e.sa }
  | .withdraw => { l with acc := 0, paid := l.paid + l.acc / Dec.ONE, w := l.w + 1 }

def Ledger.run (A c : Nat) (l : Ledger) (steps : List LStep) : Ledger := steps.foldl (Ledger.step A c) l

def LStep.ok : LStep → Prop
  | .credit e => e.ok
  | .withdraw => True

/-- the two C15 bounds as one invariant of the ledger:
  upper  (withdrawn tokens + accumulator) ≤ exact + 2 atomics per update
  lower  exact ≤ withdrawn + accumulator + (one token per withdrawal) + 4 atomics per update -/
def Ledger.Good (l : Ledger) : Prop :=
  (l.paid * Dec.ONE + l.acc) * P0 ≤ l.exact + 2 * l.n * P0 ∧
  l.exact ≤ (l.paid * Dec.ONE + l.acc + l.w * Dec.ONE + 4 * l.n) * P0

theorem Ledger.Good_step (A c : Nat) (hc : c ≤ Dec.ONE) (l : Ledger) (st : LStep) (hok : st.ok) (hg : l.Good) :
    (l.step A c st).Good := by
  cases st with
  | credit e =>
    exact Arith.good_credit (K := creditOf e.S A c e.sa e.T) (X := A * e.T * (Dec.ONE - c) * e.sa)
      (Arith.credit_upper_free e.S A e.T c e.sa Dec.ONE YEAR Dec.ONE_pos hok.1 hc hok.2)
      (Arith.credit_lower_free e.S A e.T c e.sa Dec.ONE YEAR Dec.ONE_pos YEAR_pos hok.1 hc hok.2) hg.1 hg.2
  | withdraw => exact Arith.good_withdraw Dec.ONE_pos hg.1 hg.2

theorem Ledger.Good_run (A c : Nat) (hc : c ≤ Dec.ONE) (steps : List LStep) (l : Ledger)
    (hok : ∀ st ∈ steps, st.ok) (hg : l.Good) : (l.run A c steps).Good := by
  induction steps generalizing l with
  | nil => exact hg
  | cons st rest ih =>
    simp only [Ledger.run, List.foldl_cons]
    exact ih (l.step A c st) (fun x hx => hok x (List.mem_cons_of_mem _ hx))
      (Ledger.Good_step A c hc l st (hok st List.mem_cons_self) hg)

/-- a ledger that starts with an accumulator `a` counts it as exact value -/
theorem Ledger.Good_start (a : Nat) : ({ acc := a, exact := a * P0 } : Ledger).Good := by simp [Ledger.Good]

end Staking
end CwMt
