import CwMt.Proofs.StakingInv
/-
  CwMt.Proofs.StakingSlash — C16: what a slash does and what it leaves alone: the whole operation as a structure
  (`sudoSlash_effect : SlashEffect`), what becomes of a record that remains (`sudoSlash_remaining`: scaled, same
  accumulator), and slashes in a row (`slashAll_effect`).
-/
namespace CwMt
namespace Staking
open KMap

def slashAll (c : Chain) (v : String) : List Dec → Outcome Chain
  | [] => .ok c
  | p :: ps =>
    match sudoSlash c v p with
    | .ok c1 => slashAll c1 v ps
    | .err => .err
    | .panic => .panic
    | .outOfFuel => .outOfFuel

theorem slashAll_nil (c : Chain) (v : String) : slashAll c v [] = .ok c := rfl

theorem slashAll_cons (c : Chain) (v : String) (p : Dec) (ps : List Dec) :
    slashAll c v (p :: ps) = (sudoSlash c v p).bind fun c1 => slashAll c1 v ps := by
  rw [slashAll]; cases sudoSlash c v p <;> rfl

variable {cfg : Cfg} {c c' : Chain} {s : SState} {v : String} {vi : ValInfo} {p : Dec}

/-- `slash` loops over the staker set of `v`; under I2 that reaches every record of `v` -/
theorem get?_scaleAll_stakers (hi : SInv s) (hv : get? s.vinfo v = some vi) (rem : Dec) (d : Addr) :
    get? (scaleAll s.stakes v vi.stakers rem) (d, v) =
      (get? s.stakes (d, v)).map fun sh => { sh with stake := Dec.mul sh.stake rem } := by
  rw [get?_scaleAll]
  cases hg : get? s.stakes (d, v) with
  | none => rfl
  | some sh => rw [Option.map_some, Option.map_some, if_pos ⟨rfl, hi.mem_stakers hg hv⟩]

theorem stakeOf_scaleAll_stakers {s' : SState} {rem : Dec} (hi : SInv s) (hv : get? s.vinfo v = some vi)
    (hs : s'.stakes = scaleAll s.stakes v vi.stakers rem) (d : Addr) :
    stakeOf s' d v = Dec.mul (stakeOf s d v) rem := by
  have hg' : get? s'.stakes (d, v) = _ := hs ▸ get?_scaleAll_stakers hi hv rem d
  cases hg : get? s.stakes (d, v) with
  | none => rw [hg] at hg'; rw [stakeOf_of_none hg, stakeOf_of_none hg', Dec.zero_mul]
  | some sh => rw [hg] at hg'; rw [stakeOf_of_get? hg, stakeOf_of_get? hg']

theorem get?_removeAll_stakers (hi : SInv s) (hv : get? s.vinfo v = some vi) (d : Addr) :
    get? (removeAll s.stakes v vi.stakers) (d, v) = none := by
  rw [get?_removeAll]
  split
  · rfl
  · rename_i hnot
    cases hg : get? s.stakes (d, v) with
    | none => rfl
    | some sh => exact absurd ⟨rfl, hi.mem_stakers hg hv⟩ hnot

/-- the record view of a slash: the accumulator and `last` are those after the reward update (`vi'.last = vi1.last` is what
`C16.frame_rewards` needs) -/
theorem sudoSlash_remaining (hi : SInv c.st) (h : sudoSlash c v p = .ok c') {d : Addr}
    (hrec : (get? c'.st.stakes (d, v)).isSome) :
    ∃ s1 sh1 vi1 vi', updateRewards c.st c.time v = .ok s1 ∧ get? s1.stakes (d, v) = some sh1 ∧
      get? s1.vinfo v = some vi1 ∧ get? c'.st.stakes (d, v) = some { sh1 with stake := Dec.mul sh1.stake (remOf p) } ∧
      get? c'.st.vinfo v = some vi' ∧ vi'.last = vi1.last := by
  obtain ⟨_, s1, vi1, st, h1, hvi1, hst, rfl⟩ := sudoSlash_ok h
  have hi1 := SInv_updateRewards hi (updateRewards_spec h1)
  obtain ⟨_, _, rfl, ⟨_, rfl, rfl⟩ | ⟨_, rfl, rfl⟩⟩ := applySlash_ok hi1 hvi1 hst
  · rw [show get? _ (d, v) = none from get?_removeAll_stakers hi1 hvi1 d] at hrec; cases hrec
  · have hg : get? _ (d, v) = _ := get?_scaleAll_stakers hi1 hvi1 (remOf p) d
    rw [hg] at hrec
    cases hsh : get? s1.stakes (d, v) with
    | none => rw [hsh] at hrec; cases hrec
    | some sh => exact ⟨s1, sh, vi1, _, h1, hsh, hvi1, hg.trans (by rw [hsh]; rfl), get?_set_self _ _ _, rfl⟩

/-- the complete effect of an accepted slash of validator `v` by `p` (code as fixed by c602f29): every share is
scaled, the validator total becomes the whole tokens of the sum of the scaled shares, and only when that is zero —
i.e. when all scaled shares together are worth less than one token — the records are dropped -/
structure SlashEffect (c : Chain) (v : String) (p : Dec) (c' : Chain) : Prop where
  pct_le : p ≤ Dec.one
  known : ∃ vo, c.st.validator? v = some vo
  bank : c'.bank = c.bank
  time : c'.time = c.time
  withdraw : c'.st.withdraw = c.st.withdraw
  info : c'.st.info = c.st.info
  validators : c'.st.validators = c.st.validators
  queue : c'.st.queue = slashQueue c.st.queue v (remOf p)
  other_records : ∀ k : Addr × String, k.2 ≠ v → get? c'.st.stakes k = get? c.st.stakes k
  other_validators : ∀ w, w ≠ v → get? c'.st.vinfo w = get? c.st.vinfo w
  total : ∃ vi vi', get? c.st.vinfo v = some vi ∧ get? c'.st.vinfo v = some vi' ∧
      vi'.stake = scaledTotal c.st.stakes v (remOf p) / Dec.ONE ∧
      (vi'.stake ≠ 0 → (∀ d, stakeOf c'.st d v = Dec.mul (stakeOf c.st d v) (remOf p)) ∧
                        vi'.stake = shareSum c'.st.stakes v / Dec.ONE ∧ vi'.stakers = vi.stakers) ∧
      (vi'.stake = 0 → (∀ d, get? c'.st.stakes (d, v) = none) ∧ scaledTotal c.st.stakes v (remOf p) < Dec.ONE)

theorem sudoSlash_effect (hi : SInv c.st) (h : sudoSlash c v p = .ok c') : SlashEffect c v p c' := by
  obtain ⟨hp, s1, vi1, st, h1, hvi1, hst, rfl⟩ := sudoSlash_ok h
  have ur := updateRewards_spec h1
  have hi1 := SInv_updateRewards hi ur
  obtain ⟨vi, hvi, hvi1'⟩ := ur.vinfo_self
  cases hvi1.symm.trans hvi1'
  have hother := fun k hk => (applySlash_stakes_other hi1 hvi1 hst (k := k) hk).trans (ur.stakes_other hk)
  obtain ⟨_, _, rfl, hcases⟩ := applySlash_ok hi1 hvi1 hst
  refine ⟨hp, ur.valid, rfl, rfl, ur.withdraw, ur.info, ur.validators, congrArg (slashQueue · v (remOf p)) ur.queue, hother,
    fun w hw => (get?_set_ne _ _ hw).trans (ur.vinfo_other w hw), ?_⟩
  -- crediting changes no share, so the scaled total is that of the state before
  have hsc : scaledTotal s1.stakes v (remOf p) = scaledTotal c.st.stakes v (remOf p) :=
    stakeSum_updateRewards h1 (fun x => (Dec.mul x (remOf p)).atomics) v
  rw [hsc] at hcases
  obtain ⟨hz, rfl, rfl⟩ | ⟨hnz, rfl, rfl⟩ := hcases
  · exact ⟨vi, _, hvi, get?_set_self _ _ _, hz.symm, fun hnz => absurd rfl hnz,
      fun _ => ⟨get?_removeAll_stakers hi1 hvi1, Nat.lt_of_div_eq_zero Dec.ONE_pos hz⟩⟩
  · exact ⟨vi, _, hvi, get?_set_self _ _ _, rfl,
      fun _ => ⟨fun d => (stakeOf_scaleAll_stakers hi1 hvi1 rfl d).trans (congrArg (Dec.mul · (remOf p)) (ur.stakeOf_eq d v)),
        congrArg (· / Dec.ONE) ((shareSum_scaleAll_self s1.stakes v _ (remOf p) (hi1.owners_listed hvi1)).trans hsc).symm, rfl⟩,
      fun hz => absurd hz hnz⟩

theorem SlashEffect.scaled (ef : SlashEffect c v p c') (hne : scaledTotal c.st.stakes v (remOf p) / Dec.ONE ≠ 0) (d : Addr) :
    stakeOf c'.st d v = Dec.mul (stakeOf c.st d v) (remOf p) := by
  obtain ⟨_, _, _, _, hT, hnz, _⟩ := ef.total
  exact (hnz (hT ▸ hne)).1 d

theorem SlashEffect.dropped (ef : SlashEffect c v p c') (he : scaledTotal c.st.stakes v (remOf p) / Dec.ONE = 0) :
    (∀ d, get? c'.st.stakes (d, v) = none) ∧ scaledTotal c.st.stakes v (remOf p) < Dec.ONE := by
  obtain ⟨_, _, _, _, hT, _, hz⟩ := ef.total
  exact hz (hT.trans he)

theorem SlashEffect.stakeOf_le (ef : SlashEffect c v p c') (d : Addr) :
    stakeOf c'.st d v ≤ Dec.mul (stakeOf c.st d v) (remOf p) := by
  by_cases e : scaledTotal c.st.stakes v (remOf p) / Dec.ONE = 0
  · rw [stakeOf_of_none ((ef.dropped e).1 d)]; exact Nat.zero_le _
  · rw [ef.scaled e d]; exact Nat.le_refl _

structure SlashAllEffect (cfg : Cfg) (c : Chain) (v : String) (c' : Chain) : Prop where
  inv : Inv cfg c'
  bank : c'.bank = c.bank
  withdraw : c'.st.withdraw = c.st.withdraw
  other_records : ∀ k : Addr × String, k.2 ≠ v → get? c'.st.stakes k = get? c.st.stakes k
  other_validators : ∀ w, w ≠ v → get? c'.st.vinfo w = get? c.st.vinfo w
  stake_le : ∀ d, stakeOf c'.st d v ≤ stakeOf c.st d v
  queue_length : c'.st.queue.length = c.st.queue.length

theorem slashAll_effect (ps : List Dec) (hi : Inv cfg c) (h : slashAll c v ps = .ok c') :
    SlashAllEffect cfg c v c' := by
  induction ps generalizing c with
  | nil =>
    rw [slashAll_nil] at h; cases h
    exact ⟨hi, rfl, rfl, fun _ _ => rfl, fun _ _ => rfl, fun d => Nat.le_refl _, rfl⟩
  | cons p ps ih =>
    rw [slashAll_cons] at h
    obtain ⟨c1, h1, h⟩ := Outcome.bind_ok_iff.mp h
    have ef := sudoSlash_effect hi.sinv h1
    have e := ih (Inv_sudoSlash hi h1) h
    exact ⟨e.inv, e.bank.trans ef.bank, e.withdraw.trans ef.withdraw,
      fun k hk => (e.other_records k hk).trans (ef.other_records k hk),
      fun w hw => (e.other_validators w hw).trans (ef.other_validators w hw),
      fun d => Nat.le_trans (e.stake_le d) (Nat.le_trans (ef.stakeOf_le d) (Dec.mul_le_left _ (remOf_le_one p))),
      by rw [e.queue_length, ef.queue, slashQueue_length]⟩

end Staking
end CwMt
