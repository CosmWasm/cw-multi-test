import CwMt.Proofs.EngineBig_Core
/- The compositional rules of the fuel-free judgements `Exec / Proc / Sub / Rep`: one `iff` per construct, none mentions
fuel or the trace. Each is read out where it is stated as a property (CwMt/Props/C02.lean, C11, C12). Every proof goes the
same way: `ev_succ` with the one-step equation of the outcome function, then the lemma of EngineBig_Core for the shape
that equation has (`ev_bind` for a sequence, `ev_mapO`, `ev_const_of_ne`, `ev_fail`). -/
namespace CwMt.EngineBig
open CwMt CwMt.Engine
variable {E : Type}

theorem proc_nil (cfg : Config E) (blk : Block) (ch : Chain E) (c : Addr) (resp : AppResponse) (o : Out E) :
    Proc cfg blk ch c resp [] o ↔ o = .ok (resp, ch) :=
  Iff.trans (ev_succ rfl fun n => procO_succ_nil cfg blk n ch c resp) (ev_const_of_ne nofun)

theorem proc_cons (cfg : Config E) (blk : Block) (ch : Chain E) (c : Addr) (resp : AppResponse) (sm : SubMsg)
    (rest : List SubMsg) (o : Out E) :
    Proc cfg blk ch c resp (sm :: rest) o ↔
      ∃ o₁, Sub cfg blk ch c sm o₁ ∧
        (match o₁ with
         | .ok (sr, ch₁) =>
           Proc cfg blk ch₁ c { events := resp.events ++ sr.events, data := sr.data.orElse fun _ => resp.data } rest o
         | other => o = other) := by
  refine Iff.trans (ev_succ rfl fun n => procO_succ_cons cfg blk n ch c resp sm rest) ?_
  refine (ev_bind (subO_mono cfg blk ch c sm) (procK_mono cfg blk c resp rest) fun _ => rfl).trans ?_
  refine exists_congr fun o₁ => and_congr_right fun h₁ => ?_
  cases o₁ with
  | ok p => exact Iff.rfl
  | err => exact ev_const_of_ne nofun
  | panic => exact ev_const_of_ne nofun
  | outOfFuel => exact absurd rfl h₁.1

theorem sub_rule (cfg : Config E) (blk : Block) (ch : Chain E) (c : Addr) (sm : SubMsg) (o : Out E) :
    Sub cfg blk ch c sm o ↔
      ((∃ r ch₁, Exec cfg blk ch c sm.msg (.ok (r, ch₁)) ∧
          ((wantsReplyOnOk sm.replyOn = true ∧
              ∃ o', Rep cfg blk ch₁ c ⟨sm.id, sm.payload, .ok r.events r.data⟩ o' ∧ o = mergeReply r o') ∨
           (wantsReplyOnOk sm.replyOn = false ∧ o = .ok ({ r with data := none }, ch₁)))) ∨
       (Exec cfg blk ch c sm.msg .err ∧
          ((wantsReplyOnErr sm.replyOn = true ∧ Rep cfg blk ch c ⟨sm.id, sm.payload, .err⟩ o) ∨
           (wantsReplyOnErr sm.replyOn = false ∧ o = .err))) ∨
       (Exec cfg blk ch c sm.msg .panic ∧ o = .panic)) := by
  refine Iff.trans (ev_succ rfl fun n => subO_succ cfg blk n ch c sm) ?_
  refine (ev_bind (execO_mono cfg blk ch c sm.msg) (subK_mono cfg blk ch c sm) fun _ => rfl).trans ?_
  -- what the continuation `subK` eventually yields, per outcome of the message
  refine (exists_out_iff fun h => h.1.1 rfl).trans (or_congr ?_ (or_congr ?_ ?_))
  · exact exists_congr fun r => exists_congr fun ch₁ => and_congr_right fun _ =>
      (ev_ite _ _ _ _).trans (or_congr
        (and_congr_right fun _ => (ev_mapO _ _ _).trans (by simp only [mergeReply_eq_mapO]; rfl))
        (and_congr_right fun _ => ev_const_of_ne nofun))
  · exact and_congr_right fun _ =>
      (ev_ite _ _ _ _).trans (or_congr Iff.rfl (and_congr_right fun _ => ev_const_of_ne nofun))
  · exact and_congr_right fun _ => ev_const_of_ne (c := .panic) nofun

theorem rep_rule (cfg : Config E) (blk : Block) (ch : Chain E) (c : Addr) (rp : Reply) (o : Out E) :
    Rep cfg blk ch c rp o ↔
      (match (callContract cfg blk ch c (.reply rp) []).1 with
       | .ok (resp, ch₁) =>
         Proc cfg blk ch₁ c (buildAppResponse c (replyEvent c rp) resp).1 (buildAppResponse c (replyEvent c rp) resp).2 o
       | .err => o = .err
       | .panic => o = .panic
       | .outOfFuel => False) := by
  refine Iff.trans (ev_succ rfl fun n => callThen_fst cfg blk n ch c (.reply rp) (replyEvent c rp) []) ?_
  cases (callContract cfg blk ch c (.reply rp) []).1 with
  | ok p => exact Iff.rfl
  | _ => exact ev_fail rfl

/-- A message whose step does not recurse — bank, admin changes, other modules — ends with the outcome of that step:
with the equation of its arm (`Engine.execute_succ_bankBurn`, `Engine.execute_succ_ext` and the two of the admin messages)
this is its rule. -/
theorem exec_pure {cfg : Config E} {blk : Block} {ch : Chain E} {s : Addr} {m : Msg} {c : Out E} (o : Out E)
    (h : ∀ n, execute cfg blk (n + 1) ch s m [] = (c, [])) :
    Exec cfg blk ch s m o ↔ (o = c ∧ o ≠ .outOfFuel) :=
  Iff.trans (ev_succ rfl fun n => congrArg Prod.fst (h n)) (ev_const c o)

theorem exec_bank (cfg : Config E) (blk : Block) (ch : Chain E) (s : Addr) (to : String) (amount : Coins) (o : Out E) :
    Exec cfg blk ch s (.bankSend to amount) o ↔ (o = bankExecute ch s (.bankSend to amount) ∧ o ≠ .outOfFuel) :=
  exec_pure o fun n => execute_succ_bankSend cfg blk n ch s to amount []

theorem exec_wasm_execute (cfg : Config E) (blk : Block) (ch : Chain E) (s : Addr) (contract : String) (m : Val)
    (funds : Coins) (o : Out E) :
    Exec cfg blk ch s (.wasmExecute contract m funds) o ↔
      (if cfg.validAddr contract = false then o = .err else
       match sendFunds ch s contract funds with
       | .ok ch₁ =>
         (match (callContract cfg blk ch₁ contract (.execute ⟨s, funds⟩ m) []).1 with
          | .ok (resp, ch₂) =>
            ∃ o', Proc cfg blk ch₂ contract
                (buildAppResponse contract { ty := "execute", attrs := [contractAttr contract] } resp).1
                (buildAppResponse contract { ty := "execute", attrs := [contractAttr contract] } resp).2 o' ∧
              o = (match o' with
                   | .ok (r, ch₃) => .ok ({ r with data := r.data.map encodeExecuteResponse }, ch₃)
                   | other => other)
          | .err => o = .err
          | .panic => o = .panic
          | .outOfFuel => False)
       | .err => o = .err
       | .panic => o = .panic
       | .outOfFuel => False) := by
  refine Iff.trans (ev_succ rfl fun n => congrArg Prod.fst (execute_succ_wasmExecute cfg blk n ch s contract m funds [])) ?_
  cases cfg.validAddr contract with
  | false => exact ev_const_of_ne nofun
  | true =>
  cases sendFunds ch s contract funds with
  | ok ch₁ => exact callThen_rule ..
  | _ => exact ev_fail rfl

theorem exec_wasm_instantiate (cfg : Config E) (blk : Block) (ch : Chain E) (s : Addr) (admin : Option String)
    (codeId : Nat) (m : Val) (funds : Coins) (label : String) (salt : Option Val) (o : Out E) :
    Exec cfg blk ch s (.wasmInstantiate admin codeId m funds label salt) o ↔
      (if label.isEmpty = true then o = .err else
       match registerContract cfg ch codeId s admin label blk.height salt with
       | .ok (addr, ch₀) =>
         (match sendFunds ch₀ s addr funds with
          | .ok ch₁ =>
            (match (callContract cfg blk ch₁ addr (.instantiate ⟨s, funds⟩ m) []).1 with
             | .ok (resp, ch₂) =>
               ∃ o', Proc cfg blk ch₂ addr
                   (buildAppResponse addr { ty := "instantiate", attrs := [contractAttr addr, ⟨"code_id", toString codeId⟩] } resp).1
                   (buildAppResponse addr { ty := "instantiate", attrs := [contractAttr addr, ⟨"code_id", toString codeId⟩] } resp).2 o' ∧
                 o = (match o' with
                      | .ok (r, ch₃) => .ok ({ r with data := some (encodeInstantiateResponse addr (r.data.getD [])) }, ch₃)
                      | other => other)
             | .err => o = .err
             | .panic => o = .panic
             | .outOfFuel => False)
          | .err => o = .err
          | .panic => o = .panic
          | .outOfFuel => False)
       | .err => o = .err
       | .panic => o = .panic
       | .outOfFuel => False) := by
  refine Iff.trans (ev_succ rfl fun n =>
    congrArg Prod.fst (execute_succ_wasmInstantiate cfg blk n ch s admin codeId m funds label salt [])) ?_
  cases label.isEmpty with
  | true => exact ev_const_of_ne nofun
  | false =>
  cases registerContract cfg ch codeId s admin label blk.height salt with
  | ok p =>
    obtain ⟨addr, ch₀⟩ := p
    dsimp only
    cases sendFunds ch₀ s addr funds with
    | ok ch₁ => exact callThen_rule ..
    | _ => exact ev_fail rfl
  | _ => exact ev_fail rfl

theorem exec_wasm_migrate (cfg : Config E) (blk : Block) (ch : Chain E) (s : Addr) (contract : String) (newCodeId : Nat)
    (m : Val) (o : Out E) :
    Exec cfg blk ch s (.wasmMigrate contract newCodeId m) o ↔
      (if cfg.validAddr contract = false then o = .err else
       if codeKnown cfg newCodeId = false then o = .err else
       match ch.contracts.get? contract with
       | none => o = .err
       | some cd =>
         if cd.admin ≠ some s then o = .err else
         match (callContract cfg blk { ch with contracts := ch.contracts.set contract { cd with codeId := newCodeId } }
                  contract (.migrate m) []).1 with
         | .ok (resp, ch₂) =>
           ∃ o', Proc cfg blk ch₂ contract
               (buildAppResponse contract { ty := "migrate", attrs := [contractAttr contract, ⟨"code_id", toString newCodeId⟩] } resp).1
               (buildAppResponse contract { ty := "migrate", attrs := [contractAttr contract, ⟨"code_id", toString newCodeId⟩] } resp).2 o' ∧
             o = (match o' with
                  | .ok (r, ch₃) => .ok ({ r with data := r.data.map encodeExecuteResponse }, ch₃)
                  | other => other)
         | .err => o = .err
         | .panic => o = .panic
         | .outOfFuel => False) := by
  refine Iff.trans (ev_succ rfl fun n => congrArg Prod.fst (execute_succ_wasmMigrate cfg blk n ch s contract newCodeId m [])) ?_
  cases cfg.validAddr contract with
  | false => exact ev_const_of_ne nofun
  | true =>
  cases codeKnown cfg newCodeId with
  | false => exact ev_const_of_ne nofun
  | true =>
  cases ch.contracts.get? contract with
  | none => exact ev_const_of_ne nofun
  | some cd =>
  by_cases ha : cd.admin ≠ some s
  · simp only [if_pos ha]
    exact ev_const_of_ne nofun
  · simp only [if_neg ha]
    exact callThen_rule ..

theorem app_execute_single (cfg : Config E) (blk : Block) (fuel : Nat) (ch : Chain E) (s : Addr) (m : Msg)
    (r : AppResponse) (ch' : Chain E) (tr : Trace)
    (h : App.execute cfg blk fuel ch s m = (.ok r, ch', tr)) : Exec cfg blk ch s m (.ok (r, ch')) :=
  ⟨by simp, fuel, by rw [app_execute_ok h]⟩

end CwMt.EngineBig
