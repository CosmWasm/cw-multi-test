import CwMt.Model.Route
import CwMt.Gen.Router
import CwMt.Gen.Lift
/-
  Match tables (C17): `route` and `lift` look only at the arms written for the variant, so a table is characterised by
  the arms it has per kind; for the generated tables these are evaluated once per table.
  Struct-rebuild tables (C20; any step type `S`, field type `F`, component type `α`): a table that satisfies the frame
  condition makes a run of steps compute "last supplied value or initial value" per field, and runs over permuted step
  lists agree when no two steps have the same target.
-/
namespace CwMt.Route
open CwMt.Gen

theorem find?_and {α : Type} (p q : α → Bool) (l : List α) :
    l.find? (fun a => p a && q a) = (l.filter q).find? p := by
  rw [List.find?_filter]
  congr 1
  funext a
  rw [Bool.and_comm, Bool.decide_and, Bool.decide_eq_true, Bool.decide_eq_true]

theorem route_of_arm {t : MatchTable} {k : Kind} {a : Arm} (hw : (t.onParam && t.bodyIsMatch) = true)
    (ha : t.arms.filter (fun a => a.variant == k) = [a]) (fs : FeatureSet) :
    route fs t k = if fs.has a.feature then .call a.recv a.method a.args a.direct else .fall t.fall := by
  rw [route, hw, find?_and, ha, List.find?_singleton]
  cases fs.has a.feature <;> rfl

theorem route_of_no_arm {t : MatchTable} {k : Kind} (hw : (t.onParam && t.bodyIsMatch) = true)
    (ha : t.arms.filter (fun a => a.variant == k) = []) (fs : FeatureSet) : route fs t k = .fall t.fall := by
  rw [route, hw, find?_and, ha]
  rfl

theorem lift_of_arm {t : LiftTable} {k : Kind} {a : LiftArm} (hw : t.bodyIsRebuild = true)
    (ha : t.arms.filter (fun a => a.variant == k) = [a]) (fs : FeatureSet) :
    lift fs t k =
      if fs.has a.feature then
        match a.out with
        | .rebuild k' args => .msg k' (args == boundArgs a.binders)
        | .diverge f => .diverge f
        | .other => .malformed
      else .diverge t.fall := by
  rw [lift, hw, find?_and, ha, List.find?_singleton]
  cases fs.has a.feature <;> rfl

/-! The arms of the generated tables: for every kind exactly one, the canonical one. These four evaluations are where the
tables regenerated from the sources on every run (`Gen.Router`, `Gen.Lift`) meet the model: they fail, by design, as soon
as a regenerated table has another arm for some kind. -/

theorem execTable_arms : ∀ k ∈ execKinds, Router.execTable.arms.filter (fun a => a.variant == k) =
    [⟨k, k.feature, k.parts, k.module, execMethod k, execArgs k, true⟩] := by decide +kernel

theorem queryTable_arms : ∀ k ∈ queryKinds, Router.queryTable.arms.filter (fun a => a.variant == k) =
    [⟨k, k.feature, k.parts, k.module, queryMethod k, queryArgs k, true⟩] := by decide +kernel

theorem sudoTable_arms : ∀ k ∈ sudoKinds, Router.sudoTable.arms.filter (fun a => a.variant == k) =
    [⟨k, k.feature, k.parts, k.module, .sudo, sudoArgs k, true⟩] := by decide +kernel

/-- `custom` is left out: its arm is `unreachable!()` (`C17.lift_custom_excluded`) -/
theorem liftTable_arms : ∀ k ∈ execKinds, k ≠ .custom → Lift.table.arms.filter (fun a => a.variant == k) =
    [⟨k, k.feature, k.parts, .rebuild k (boundArgs k.parts)⟩] := by decide +kernel

variable {S F α : Type} [DecidableEq S] [DecidableEq F]

theorem applyRow_kept {r : Row F} {f : F} (h : tagOf r f = .kept) (args : Nat → CVal α) (s : F → CVal α) :
    applyRow r args s f = s f := by
  unfold tagOf at h; unfold applyRow
  generalize srcOf r f = o at h ⊢
  rcases o with _ | (_ | _ | _ | _ | _) <;> cases h <;> rfl

theorem applyRow_param {r : Row F} {f : F} {i : Nat} (h : tagOf r f = .param i) (args : Nat → CVal α)
    (s : F → CVal α) : applyRow r args s f = args i := by
  unfold tagOf at h; unfold applyRow
  generalize srcOf r f = o at h ⊢
  rcases o with _ | (_ | _ | _ | _ | _) <;> cases h <;> rfl

theorem applyRow_of_frame {fields : List F} {target : F} {r : Row F} (h : rowFrameOk fields target r = true)
    (args : Nat → CVal α) (s : F → CVal α) {f : F} (hf : f ∈ fields) :
    applyRow r args s f = if f = target then args 0 else s f := by
  simp only [rowFrameOk, Bool.and_eq_true, List.all_eq_true, beq_iff_eq] at h
  have hf' := h.2 f hf
  split at hf'
  · next e => rw [if_pos e]; exact applyRow_param hf' args s
  · next e => rw [if_neg e]; exact applyRow_kept hf' args s

theorem applyStep_of_frame {fields : List F} {target : S → F} {steps : List S} {t : Table S F}
    (h : frameOk fields target steps t = true) {st : S} (hst : st ∈ steps)
    (args : Nat → CVal α) (s : F → CVal α) {f : F} (hf : f ∈ fields) :
    applyStep t st args s f = if f = target st then args 0 else s f := by
  have := List.all_eq_true.mp h st hst
  unfold applyStep
  split at this
  · next r hr => rw [hr]; exact applyRow_of_frame this args s hf
  · cases this

theorem runSteps_spec {fields : List F} {target : S → F} {steps : List S} {t : Table S F}
    (h : frameOk fields target steps t = true) (l : List (S × α)) (hl : ∀ p ∈ l, p.1 ∈ steps)
    (init : F → CVal α) {f : F} (hf : f ∈ fields) :
    runSteps t init l f = match lastFor target f l with
      | some a => .supplied a
      | none => init f := by
  induction l generalizing init with
  | nil => rfl
  | cons p l ih =>
    rw [List.forall_mem_cons] at hl
    show runSteps t (applyStep t p.1 (fun _ => .supplied p.2) init) l f = _
    rw [ih hl.2, lastFor]
    cases lastFor target f l with
    | some a => rfl
    | none =>
      show applyStep t p.1 (fun _ => .supplied p.2) init f = _
      rw [applyStep_of_frame h hl.1 _ _ hf]
      by_cases hft : target p.1 = f
      · rw [if_pos hft.symm, if_pos hft]
      · rw [if_neg (Ne.symm hft), if_neg hft]

omit [DecidableEq S] in
/-- `lastFor` in the more familiar form: the last element of the sub-list of steps for `f`. -/
theorem lastFor_eq_getLast? (target : S → F) (f : F) (l : List (S × α)) :
    lastFor target f l = ((l.filter (fun p => target p.1 = f)).getLast?).map Prod.snd := by
  induction l with
  | nil => rfl
  | cons p l ih =>
    rw [lastFor, ih, List.filter_cons]
    by_cases hp : target p.1 = f
    · rw [if_pos hp, if_pos (decide_eq_true hp), List.getLast?_cons]
      cases (l.filter fun p => target p.1 = f).getLast? <;> rfl
    · rw [if_neg hp, if_neg (by simpa using hp)]
      cases (l.filter fun p => target p.1 = f).getLast? <;> rfl

omit [DecidableEq S] in
theorem lastFor_eq_none {target : S → F} {f : F} {l : List (S × α)} (h : ∀ p ∈ l, target p.1 ≠ f) :
    lastFor target f l = none := by
  rw [lastFor_eq_getLast?, List.filter_eq_nil_iff.2 fun p hp => by simpa using h p hp]
  rfl

omit [DecidableEq S] in
theorem lastFor_perm (target : S → F) (f : F) {l₁ l₂ : List (S × α)} (hp : l₁.Perm l₂)
    (hnd : (l₁.map (fun p => target p.1)).Nodup) : lastFor target f l₁ = lastFor target f l₂ := by
  induction hp with
  | nil => rfl
  | cons x _ ih =>
    simp only [List.map_cons, List.nodup_cons] at hnd
    simp [lastFor, ih hnd.2]
  | swap x y l =>
    -- the one case that needs the hypothesis: the two steps that change places are for different fields
    simp only [List.map_cons, List.nodup_cons, List.mem_cons, not_or] at hnd
    have hxy : target y.1 ≠ target x.1 := hnd.1.1
    simp only [lastFor]
    cases lastFor target f l with
    | some a => rfl
    | none =>
      by_cases hx : target x.1 = f <;> by_cases hy : target y.1 = f <;> simp [hx, hy]
      exact absurd (hy.trans hx.symm) hxy
  | trans h₁ _ ih₁ ih₂ =>
    have hnd₂ := ((h₁.map (fun p => target p.1)).nodup_iff).mp hnd
    exact (ih₁ hnd).trans (ih₂ hnd₂)

theorem runSteps_of_no_step {fields : List F} {target : S → F} {steps : List S} {t : Table S F}
    (h : frameOk fields target steps t = true) (l : List (S × α)) (hl : ∀ p ∈ l, p.1 ∈ steps)
    (init : F → CVal α) {f : F} (hf : f ∈ fields) (hn : ∀ st ∈ steps, target st ≠ f) :
    runSteps t init l f = init f := by
  rw [runSteps_spec h l hl init hf, lastFor_eq_none fun p hp => hn p.1 (hl p hp)]

theorem runSteps_perm {fields : List F} {target : S → F} {steps : List S} {t : Table S F}
    (h : frameOk fields target steps t = true) {l₁ l₂ : List (S × α)} (hp : l₁.Perm l₂)
    (hl : ∀ p ∈ l₁, p.1 ∈ steps) (hnd : (l₁.map (fun p => target p.1)).Nodup)
    (init : F → CVal α) {f : F} (hf : f ∈ fields) :
    runSteps t init l₁ f = runSteps t init l₂ f := by
  have hl₂ : ∀ p ∈ l₂, p.1 ∈ steps := fun p hp₂ => hl p (hp.mem_iff.mpr hp₂)
  rw [runSteps_spec h l₁ hl init hf, runSteps_spec h l₂ hl₂ init hf, lastFor_perm target f hp hnd]

/-! the hypotheses of `runSteps_spec` / `runSteps_perm` on concrete step lists -/

example : ∀ p ∈ [(BStep.with_gov, 1), (BStep.with_bank, 2), (BStep.with_gov, 3)], p.1 ∈ BStep.withSteps := by decide

example : ([(BStep.with_gov, 1), (BStep.with_bank, 2)] : List (BStep × Nat)).Perm [(BStep.with_bank, 2), (BStep.with_gov, 1)] ∧
    (([(BStep.with_gov, 1), (BStep.with_bank, 2)] : List (BStep × Nat)).map (fun p => BStep.target p.1)).Nodup :=
  ⟨List.Perm.swap _ _ _, by decide⟩

example : (WStep.new ∈ [WStep.new, .new_with_empty]) ∧
    ∀ p ∈ [(WStep.with_checksum, 1), (WStep.with_reply, 2), (WStep.with_sudo_empty, 3)], p.1 ∈ WStep.withSteps := by decide

end CwMt.Route
