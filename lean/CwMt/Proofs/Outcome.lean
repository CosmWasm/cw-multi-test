import CwMt.Model.Basic
/-
  CwMt.Proofs.Outcome — generic lemmas about `Outcome`: when a sequenced call succeeds, and the predicate `Safe`
  ("neither panicked nor ran out of fuel"), which is closed under the ways the model composes calls: `safe_*` give
  `Safe` of a term by its shape, `Safe.bind` is applied to a proof (`hx.bind …`).
-/
namespace CwMt.Outcome
variable {α β : Type}

theorem bind_ok_iff {x : Outcome α} {f : α → Outcome β} {b : β} :
    x.bind f = .ok b ↔ ∃ a, x = .ok a ∧ f a = .ok b := by
  cases x <;> simp [bind]

theorem map_ok_iff {x : Outcome α} {f : α → β} {b : β} : x.map f = .ok b ↔ ∃ a, x = .ok a ∧ f a = b := by
  cases x <;> simp [map]

/-- `match o with | some a => f a | none => .err`, the shape of a call that returns an `Option` -/
theorem elim_ok_iff {o : Option α} {f : α → Outcome β} {b : β} :
    o.elim .err f = .ok b ↔ ∃ a, o = some a ∧ f a = .ok b := by
  cases o <;> simp

theorem ite_err_ok_iff {c : Prop} [Decidable c] {x : Outcome α} {b : α} :
    (if c then x else .err) = .ok b ↔ c ∧ x = .ok b := by
  by_cases hc : c
  · rw [if_pos hc]; exact ⟨fun h => ⟨hc, h⟩, fun h => h.2⟩
  · rw [if_neg hc]; exact ⟨fun h => (by cases h), fun h => absurd h.1 hc⟩

def Safe (x : Outcome α) : Prop := x ≠ .panic ∧ x ≠ .outOfFuel

theorem safe_ok (a : α) : Safe (.ok a) := ⟨nofun, nofun⟩

theorem safe_err : Safe (.err : Outcome α) := ⟨nofun, nofun⟩

theorem Safe.ok_or_err {x : Outcome α} (h : Safe x) : (∃ a, x = .ok a) ∨ x = .err := by
  cases x with
  | ok a => exact .inl ⟨a, rfl⟩
  | err => exact .inr rfl
  | panic => exact absurd rfl h.1
  | outOfFuel => exact absurd rfl h.2

theorem Safe.bind {x : Outcome α} {f : α → Outcome β} (hx : Safe x) (hf : ∀ a, x = .ok a → Safe (f a)) :
    Safe (x.bind f) := by
  rcases hx.ok_or_err with ⟨a, rfl⟩ | rfl
  · exact hf a rfl
  · exact safe_err

theorem safe_elim {o : Option α} {f : α → Outcome β} (hf : ∀ a, o = some a → Safe (f a)) : Safe (o.elim .err f) := by
  cases o with
  | none => exact safe_err
  | some a => exact hf a rfl

theorem safe_ite {c : Prop} [Decidable c] {x y : Outcome α} (hx : c → Safe x) (hy : ¬ c → Safe y) :
    Safe (if c then x else y) := by
  split
  · exact hx ‹_›
  · exact hy ‹_›

end CwMt.Outcome
