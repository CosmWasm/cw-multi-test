import CwMt.Proofs.AMap
/-
  The measure of a coin list is `totalOf cs d`, the sum of ALL its `d`-entries: `addCoin`, `subCoin`
  and `normalize` are additive in it without any hypothesis on the list. What a query shows is
  `amountOf cs d`, the first `d`-entry; on a stored balance the two agree (`Norm`), and `set_balance`
  always stores a normalised list. So every effect on the observable balances is read off the totals
  of the list handed to `setBalance` (`queryBalance_setBalance`, `supply_setBalance`), and `mint` and
  `burn` are `setBalance` of a list with known totals (`mint_eq_some`, `burn_eq_some`).
  `run_spec` states what one successful operation does (invariant, balances, supply) and
  `history_spec` the same for a list of operations; the property statements are instances of the two.
-/
namespace CwMt

namespace Bank

/-- what `NativeBalance::normalize` establishes -/
def Norm (cs : Coins) : Prop :=
  cs.Pairwise (fun x y => x.denom < y.denom) ∧ ∀ c ∈ cs, c.amount ≠ 0

/-- `BTreeMap` keys, and `set_balance` normalises before it saves -/
def NormInv (st : State) : Prop :=
  st.Pairwise (fun p q => p.1 < q.1) ∧ ∀ p ∈ st, Norm p.2

-- for the `decide` examples of Props/C09
instance (cs : Coins) : Decidable (Norm cs) := by unfold Norm; infer_instance
instance (st : State) : Decidable (NormInv st) := by unfold NormInv; infer_instance

theorem norm_nil : Norm [] := ⟨List.Pairwise.nil, nofun⟩

theorem NormInv_nil : NormInv [] := ⟨List.Pairwise.nil, nofun⟩

theorem norm_cons {x : Coin} {xs : Coins} :
    Norm (x :: xs) ↔ (∀ y ∈ xs, x.denom < y.denom) ∧ x.amount ≠ 0 ∧ Norm xs := by
  simp only [Norm, List.pairwise_cons, List.forall_mem_cons]
  exact ⟨fun ⟨⟨a, b⟩, c, d⟩ => ⟨a, c, b, d⟩, fun ⟨a, c, b, d⟩ => ⟨⟨a, b⟩, c, d⟩⟩

theorem totalOf_eq_sum (cs : Coins) (d : String) :
    totalOf cs d = ((cs.filter (fun c => c.denom = d)).map (·.amount)).sum := by
  rw [List.sum_eq_foldl, List.foldl_map]; rfl

@[simp] theorem totalOf_nil (d : String) : totalOf [] d = 0 := rfl

theorem totalOf_cons (c : Coin) (cs : Coins) (d : String) :
    totalOf (c :: cs) d = (if c.denom = d then c.amount else 0) + totalOf cs d := by
  rw [totalOf_eq_sum, totalOf_eq_sum, List.filter_cons]
  by_cases h : c.denom = d
  · rw [if_pos (decide_eq_true h), if_pos h]; rfl
  · rw [if_neg (mt of_decide_eq_true h), if_neg h, Nat.zero_add]

theorem totalOf_append (xs ys : Coins) (d : String) :
    totalOf (xs ++ ys) d = totalOf xs d + totalOf ys d := by
  rw [totalOf_eq_sum, totalOf_eq_sum, totalOf_eq_sum, List.filter_append, List.map_append, List.sum_append]

@[simp] theorem amountOf_nil (d : String) : amountOf [] d = 0 := rfl

theorem amountOf_cons (c : Coin) (cs : Coins) (d : String) :
    amountOf (c :: cs) d = if c.denom = d then c.amount else amountOf cs d := by
  unfold amountOf
  by_cases h : c.denom = d <;> simp [h]

theorem amountOf_cases (cs : Coins) (d : String) :
    (∃ c ∈ cs, c.denom = d ∧ c.amount = amountOf cs d) ∨
      ((∀ c ∈ cs, c.denom ≠ d) ∧ amountOf cs d = 0) := by
  unfold amountOf
  cases h : cs.find? (fun c => c.denom = d) with
  | none => exact Or.inr ⟨fun c hc => by simpa using List.find?_eq_none.mp h c hc, rfl⟩
  | some c => exact Or.inl ⟨c, List.mem_of_find?_eq_some h, by simpa using List.find?_some h, rfl⟩

theorem amountOf_eq_zero {cs : Coins} {d : String} (h : ∀ y ∈ cs, y.denom ≠ d) : amountOf cs d = 0 :=
  (amountOf_cases cs d).elim (fun ⟨c, hc, e, _⟩ => absurd e (h c hc)) And.right

theorem amountOf_eq_zero_of_lt {cs : Coins} {d : String} (h : ∀ y ∈ cs, d < y.denom) : amountOf cs d = 0 :=
  amountOf_eq_zero fun y hy => (String.ne_of_lt (h y hy)).symm

theorem totalOf_filter_nonzero (cs : Coins) (d : String) :
    totalOf (cs.filter (fun c => c.amount ≠ 0)) d = totalOf cs d := by
  induction cs with
  | nil => rfl
  | cons x xs ih =>
    rw [List.filter_cons, totalOf_cons]
    by_cases hx : x.amount = 0
    · rw [if_neg (by simpa using hx), ih, hx]; simp
    · rw [if_pos (by simpa using hx), totalOf_cons, ih]

/-- in a normalised list the first `d`-entry is the only one -/
theorem totalOf_eq_amountOf {cs : Coins} (h : Norm cs) (d : String) : totalOf cs d = amountOf cs d := by
  induction cs with
  | nil => rfl
  | cons x xs ih =>
    obtain ⟨hx, _, hxs⟩ := norm_cons.mp h
    rw [totalOf_cons, amountOf_cons, ih hxs]
    by_cases e : x.denom = d
    · rw [if_pos e, if_pos e, ← e, amountOf_eq_zero_of_lt hx]; rfl
    · rw [if_neg e, if_neg e]; exact Nat.zero_add _

theorem totalOf_eq_zero_iff {cs : Coins} {d : String} :
    totalOf cs d = 0 ↔ ∀ c ∈ cs, c.denom = d → c.amount = 0 := by
  rw [totalOf_eq_sum, List.sum_eq_zero_iff_forall_eq_nat]
  simp only [List.mem_map, List.mem_filter, decide_eq_true_eq]
  exact ⟨fun h c hc hd => h _ ⟨c, ⟨hc, hd⟩, rfl⟩, fun h _ ⟨c, ⟨hc, hd⟩, e⟩ => e ▸ h c hc hd⟩

theorem head_le_of_amountOf_ne_zero {x : Coin} {xs : Coins} {d : String} (h : Norm (x :: xs))
    (hd : amountOf (x :: xs) d ≠ 0) : x.denom ≤ d := by
  refine String.not_lt.mp fun hlt => hd (amountOf_eq_zero_of_lt ?_)
  have hx := (norm_cons.mp h).1
  exact List.forall_mem_cons.mpr ⟨hlt, fun y hy => String.lt_trans hlt (hx y hy)⟩

theorem amountOf_head {x : Coin} {xs : Coins} : amountOf (x :: xs) x.denom = x.amount := by
  rw [amountOf_cons, if_pos rfl]

theorem norm_ext {a b : Coins} (ha : Norm a) (hb : Norm b) (h : ∀ d, amountOf a d = amountOf b d) : a = b := by
  induction a generalizing b with
  | nil =>
    cases b with
    | nil => rfl
    | cons y ys => exact absurd ((h y.denom).symm.trans rfl) (amountOf_head ▸ (norm_cons.mp hb).2.1)
  | cons x xs ih =>
    obtain ⟨hx, hx0, hxs⟩ := norm_cons.mp ha
    cases b with
    | nil => exact absurd (h x.denom) (amountOf_head ▸ hx0)
    | cons y ys =>
      obtain ⟨hy, hy0, hys⟩ := norm_cons.mp hb
      -- each head shows a non-zero amount, which the other list shows too: so neither head is below the other
      have hd : x.denom = y.denom :=
        String.le_antisymm (head_le_of_amountOf_ne_zero ha (by rw [h, amountOf_head]; exact hy0))
          (head_le_of_amountOf_ne_zero hb (by rw [← h, amountOf_head]; exact hx0))
      have hamt : x.amount = y.amount := by
        have := h x.denom
        rwa [amountOf_head, hd, amountOf_head] at this
      have hxy : x = y := by cases x; cases y; cases hd; cases hamt; rfl
      subst hxy
      congr 1
      refine ih hxs hys fun d => ?_
      by_cases e : x.denom = d
      · rw [← e, amountOf_eq_zero_of_lt hx, amountOf_eq_zero_of_lt hy]
      · have := h d
        rwa [amountOf_cons, amountOf_cons, if_neg e, if_neg e] at this

theorem addCoin_cons_cases (x : Coin) (xs : Coins) (c : Coin) :
    (x.denom = c.denom ∧ addCoin (x :: xs) c = { x with amount := x.amount + c.amount } :: xs) ∨
    (x.denom ≠ c.denom ∧ ((∃ y ∈ xs, y.denom = c.denom) ∨ x.denom < c.denom) ∧
      addCoin (x :: xs) c = x :: addCoin xs c) ∨
    ((∀ y ∈ x :: xs, y.denom ≠ c.denom) ∧ c.denom < x.denom ∧ addCoin (x :: xs) c = c :: x :: xs) := by
  rw [addCoin]
  by_cases h1 : x.denom = c.denom
  · exact Or.inl ⟨h1, if_pos h1⟩
  · rw [if_neg h1]
    by_cases h2 : (x :: xs).any (fun y => y.denom = c.denom) = true
    · obtain ⟨y, hy, e⟩ := List.any_eq_true.mp h2
      have e := of_decide_eq_true e
      have hy : y ∈ xs := (List.mem_cons.mp hy).resolve_left fun e' => h1 (e' ▸ e)
      exact Or.inr (Or.inl ⟨h1, Or.inl ⟨y, hy, e⟩, if_pos h2⟩)
    · rw [if_neg h2]
      by_cases h3 : c.denom ≤ x.denom
      · exact Or.inr (Or.inr ⟨fun y hy e => h2 (List.any_eq_true.mpr ⟨y, hy, decide_eq_true e⟩),
          Std.lt_of_le_of_ne h3 (Ne.symm h1), if_pos h3⟩)
      · exact Or.inr (Or.inl ⟨h1, Or.inr (String.not_le.mp h3), if_neg h3⟩)

theorem totalOf_addCoin (b : Coins) (c : Coin) (d : String) :
    totalOf (addCoin b c) d = totalOf b d + (if c.denom = d then c.amount else 0) := by
  induction b with
  | nil => rw [addCoin, totalOf_cons]; exact Nat.add_comm _ _
  | cons x xs ih =>
    rcases addCoin_cons_cases x xs c with ⟨h, e⟩ | ⟨_, _, e⟩ | ⟨_, _, e⟩ <;> rw [e, totalOf_cons, totalOf_cons]
    · simp only [h]
      by_cases e2 : c.denom = d
      · rw [if_pos e2, if_pos e2, if_pos e2]; exact Nat.add_right_comm _ _ _
      · rw [if_neg e2, if_neg e2, if_neg e2]; rfl
    · rw [ih, Nat.add_assoc]
    · exact Nat.add_comm _ _

theorem amountOf_addCoin (b : Coins) (c : Coin) (d : String) :
    amountOf (addCoin b c) d = amountOf b d + (if c.denom = d then c.amount else 0) := by
  induction b with
  | nil => rw [addCoin, amountOf_cons]; exact (Nat.zero_add _).symm
  | cons x xs ih =>
    rcases addCoin_cons_cases x xs c with ⟨h, e⟩ | ⟨h, _, e⟩ | ⟨h, _, e⟩ <;> rw [e, amountOf_cons, amountOf_cons]
    · simp only [h]
      by_cases e2 : c.denom = d
      · rw [if_pos e2, if_pos e2, if_pos e2]
      · rw [if_neg e2, if_neg e2, if_neg e2]; rfl
    · by_cases e2 : x.denom = d
      · rw [if_pos e2, if_pos e2, if_neg (e2 ▸ Ne.symm h)]; rfl
      · rw [if_neg e2, if_neg e2, ih]
    · by_cases e2 : c.denom = d
      · rw [if_pos e2, if_pos e2, ← amountOf_cons, ← e2, amountOf_eq_zero h]; exact (Nat.zero_add _).symm
      · rw [if_neg e2, if_neg e2]; rfl

/-- every entry of `addCoin b c` is `c`, an entry of `b`, or an entry of `b` with `c.amount` added -/
theorem forall_mem_addCoin {P : Coin → Prop} {b : Coins} {c : Coin} (hc : P c) (hb : ∀ z ∈ b, P z)
    (hadd : ∀ z ∈ b, P { z with amount := z.amount + c.amount }) : ∀ y ∈ addCoin b c, P y := by
  induction b with
  | nil => exact List.forall_mem_singleton.mpr hc
  | cons x xs ih =>
    have ⟨hx, hxs⟩ := List.forall_mem_cons.mp hb
    have ⟨hax, haxs⟩ := List.forall_mem_cons.mp hadd
    rcases addCoin_cons_cases x xs c with ⟨_, e⟩ | ⟨_, _, e⟩ | ⟨_, _, e⟩ <;> rw [e]
    · exact List.forall_mem_cons.mpr ⟨hax, hxs⟩
    · exact List.forall_mem_cons.mpr ⟨hx, ih hxs haxs⟩
    · exact List.forall_mem_cons.mpr ⟨hc, hb⟩

theorem sorted_addCoin {b : Coins} (hb : b.Pairwise (fun x y => x.denom < y.denom)) (c : Coin) :
    (addCoin b c).Pairwise (fun x y => x.denom < y.denom) := by
  induction b with
  | nil => exact List.pairwise_singleton _ _
  | cons x xs ih =>
    have ⟨hx, hxs⟩ := List.pairwise_cons.mp hb
    rcases addCoin_cons_cases x xs c with ⟨_, e⟩ | ⟨_, h, e⟩ | ⟨_, h, e⟩ <;> rw [e]
    · exact List.pairwise_cons.mpr ⟨hx, hxs⟩
    · -- on a sorted list a denom that occurs behind the head is above the head's too
      have hlt : x.denom < c.denom := h.elim (fun ⟨y, hy, e⟩ => e ▸ hx y hy) id
      exact List.pairwise_cons.mpr ⟨forall_mem_addCoin hlt hx hx, ih hxs⟩
    · exact List.pairwise_cons.mpr ⟨List.forall_mem_cons.mpr ⟨h, fun y hy => String.lt_trans h (hx y hy)⟩, hb⟩

theorem norm_addCoin {b : Coins} {c : Coin} (hb : Norm b) (hc : c.amount ≠ 0) : Norm (addCoin b c) :=
  ⟨sorted_addCoin hb.1 c, forall_mem_addCoin hc hb.2 fun _ _ h => hc (Nat.add_eq_zero_iff.mp h).2⟩

theorem totalOf_foldl_addCoin (b amt : Coins) (d : String) :
    totalOf (amt.foldl addCoin b) d = totalOf b d + totalOf amt d := by
  induction amt generalizing b with
  | nil => rfl
  | cons c cs ih => rw [List.foldl_cons, ih, totalOf_addCoin, totalOf_cons, Nat.add_assoc]

theorem filter_nonzero_all (cs : Coins) : ∀ c ∈ cs.filter (fun c => c.amount ≠ 0), c.amount ≠ 0 :=
  fun _ hc => of_decide_eq_true (List.mem_filter.mp hc).2

theorem norm_normalize (cs : Coins) : Norm (normalize cs) :=
  List.foldlRecOn _ addCoin norm_nil fun _ hb c hc => norm_addCoin hb (filter_nonzero_all cs c hc)

/-- with `norm_normalize` and `norm_ext` this determines `normalize cs` -/
theorem totalOf_normalize (cs : Coins) (d : String) : totalOf (normalize cs) d = totalOf cs d := by
  rw [normalize, totalOf_foldl_addCoin, totalOf_filter_nonzero, totalOf_nil, Nat.zero_add]

theorem amountOf_normalize (cs : Coins) (d : String) : amountOf (normalize cs) d = totalOf cs d := by
  rw [← totalOf_eq_amountOf (norm_normalize cs), totalOf_normalize]

theorem normalize_of_norm {cs : Coins} (h : Norm cs) : normalize cs = cs :=
  norm_ext (norm_normalize cs) h (fun d => by rw [amountOf_normalize, totalOf_eq_amountOf h])

theorem normalizeAmount_eq_none_iff {cs : Coins} : normalizeAmount cs = none ↔ ∀ c ∈ cs, c.amount = 0 := by
  unfold normalizeAmount
  rw [ite_eq_left_iff, List.isEmpty_iff, List.filter_eq_nil_iff]
  simp only [reduceCtorEq, imp_false, Classical.not_not, decide_eq_true_eq]

theorem normalizeAmount_eq_some {cs r : Coins} (h : normalizeAmount cs = some r) :
    (∀ c ∈ r, c.amount ≠ 0) ∧ ∀ d, totalOf r d = totalOf cs d := by
  simp only [normalizeAmount, Option.ite_none_left_eq_some, Option.some.injEq] at h
  exact h.2 ▸ ⟨filter_nonzero_all cs, totalOf_filter_nonzero cs⟩

theorem subCoin_cons_of_ne {x c : Coin} (xs : Coins) (h : x.denom ≠ c.denom) :
    subCoin (x :: xs) c = (subCoin xs c).map (x :: ·) := by
  rw [subCoin, if_neg h]

theorem subCoin_cons_eq_some {x c : Coin} {xs b' : Coins} (h : subCoin (x :: xs) c = some b') :
    (x.denom = c.denom ∧ x.amount = c.amount ∧ b' = xs) ∨
    (x.denom = c.denom ∧ c.amount < x.amount ∧ b' = { x with amount := x.amount - c.amount } :: xs) ∨
    (x.denom ≠ c.denom ∧ ∃ r, subCoin xs c = some r ∧ b' = x :: r) := by
  by_cases h1 : x.denom = c.denom
  · rw [subCoin, if_pos h1] at h
    by_cases h2 : x.amount < c.amount
    · rw [if_pos h2] at h; cases h
    · rw [if_neg h2] at h
      by_cases h3 : x.amount = c.amount
      · rw [if_pos h3] at h; cases h; exact Or.inl ⟨h1, h3, rfl⟩
      · rw [if_neg h3] at h; cases h; exact Or.inr (Or.inl ⟨h1, Nat.lt_of_le_of_ne (Nat.not_lt.mp h2) (Ne.symm h3), rfl⟩)
  · rw [subCoin_cons_of_ne xs h1] at h
    obtain ⟨r, hr, rfl⟩ := Option.map_eq_some_iff.mp h
    exact Or.inr (Or.inr ⟨h1, r, hr, rfl⟩)

theorem totalOf_subCoin {b b' : Coins} {c : Coin} (h : subCoin b c = some b') (d : String) :
    totalOf b' d + (if c.denom = d then c.amount else 0) = totalOf b d := by
  induction b generalizing b' with
  | nil => cases h
  | cons x xs ih =>
    rw [totalOf_cons]
    rcases subCoin_cons_eq_some h with ⟨h1, h2, rfl⟩ | ⟨h1, h2, rfl⟩ | ⟨h1, r, hr, rfl⟩
    · rw [h1, h2]; exact Nat.add_comm _ _
    · rw [totalOf_cons, h1]
      by_cases e : c.denom = d
      · rw [if_pos e, if_pos e, if_pos e, Nat.add_right_comm]
        exact congrArg (· + _) (Nat.sub_add_cancel (Nat.le_of_lt h2))
      · rw [if_neg e, if_neg e, if_neg e]; rfl
    · rw [totalOf_cons, Nat.add_assoc, ih hr]

theorem totalOf_subCoins {b amt b' : Coins} (h : subCoins b amt = some b') (d : String) :
    totalOf b' d + totalOf amt d = totalOf b d := by
  induction amt generalizing b with
  | nil => cases h; rfl
  | cons c cs ih =>
    obtain ⟨r, hr, h⟩ := Option.bind_eq_some_iff.mp h
    rw [totalOf_cons, Nat.add_left_comm, ih h, Nat.add_comm, totalOf_subCoin hr]

/-- every entry of the result is an entry of `b`, or one with `c.amount` taken off and something left -/
theorem forall_mem_subCoin {P : Coin → Prop} {b b' : Coins} {c : Coin} (h : subCoin b c = some b')
    (hb : ∀ z ∈ b, P z) (hsub : ∀ z ∈ b, c.amount < z.amount → P { z with amount := z.amount - c.amount }) :
    ∀ y ∈ b', P y := by
  induction b generalizing b' with
  | nil => cases h
  | cons x xs ih =>
    have ⟨hx, hxs⟩ := List.forall_mem_cons.mp hb
    have ⟨hsx, hsxs⟩ := List.forall_mem_cons.mp hsub
    rcases subCoin_cons_eq_some h with ⟨_, _, rfl⟩ | ⟨_, h2, rfl⟩ | ⟨_, r, hr, rfl⟩
    · exact hxs
    · exact List.forall_mem_cons.mpr ⟨hsx h2, hxs⟩
    · exact List.forall_mem_cons.mpr ⟨hx, ih hr hxs hsxs⟩

theorem norm_subCoin {b b' : Coins} {c : Coin} (hb : Norm b) (h : subCoin b c = some b') : Norm b' := by
  refine ⟨?_, forall_mem_subCoin h hb.2 fun _ _ hlt => Nat.sub_ne_zero_of_lt hlt⟩
  induction b generalizing b' with
  | nil => cases h
  | cons x xs ih =>
    obtain ⟨hx, _, hxs⟩ := norm_cons.mp hb
    rcases subCoin_cons_eq_some h with ⟨_, _, rfl⟩ | ⟨_, _, rfl⟩ | ⟨_, r, hr, rfl⟩
    · exact hxs.1
    · exact List.pairwise_cons.mpr ⟨hx, hxs.1⟩
    · exact List.pairwise_cons.mpr ⟨forall_mem_subCoin hr hx (fun z hz _ => hx z hz), ih hxs hr⟩

/-- the subtraction looks at the first entry of the denom only -/
theorem subCoin_isSome_iff {b : Coins} {c : Coin} (hc : c.amount ≠ 0) :
    (subCoin b c).isSome ↔ c.amount ≤ amountOf b c.denom := by
  induction b with
  | nil => exact ⟨nofun, fun h => absurd (Nat.le_zero.mp h) hc⟩
  | cons x xs ih =>
    rw [amountOf_cons]
    by_cases h1 : x.denom = c.denom
    · rw [subCoin, if_pos h1, if_pos h1]
      by_cases h2 : x.amount < c.amount
      · rw [if_pos h2]; exact ⟨nofun, fun h => absurd h (Nat.not_le.mpr h2)⟩
      · rw [if_neg h2, apply_ite Option.isSome, Option.isSome_some, Option.isSome_some, ite_self]
        exact ⟨fun _ => Nat.not_lt.mp h2, fun _ => rfl⟩
    · rw [subCoin_cons_of_ne xs h1, if_neg h1, Option.isSome_map]; exact ih

theorem subCoins_isSome_iff {b amt : Coins} (hb : Norm b) (hamt : ∀ c ∈ amt, c.amount ≠ 0) :
    (subCoins b amt).isSome ↔ ∀ d, totalOf amt d ≤ amountOf b d := by
  induction amt generalizing b with
  | nil => simp [subCoins]
  | cons c cs ih =>
    have ⟨hc, hcs⟩ := List.forall_mem_cons.mp hamt
    have h1 := subCoin_isSome_iff (b := b) hc
    unfold subCoins
    cases hr : subCoin b c with
    | none =>
      -- already the first entry of `c.denom` does not cover `c`
      rw [hr] at h1
      simp only [Option.bind_none, Option.isSome_none, Bool.false_eq_true, false_iff] at h1 ⊢
      intro hall
      have := hall c.denom
      rw [totalOf_cons, if_pos rfl] at this
      exact h1 (Nat.le_trans (Nat.le_add_right _ _) this)
    | some r =>
      have hr' := norm_subCoin hb hr
      rw [Option.bind_some, ih hr' hcs]
      refine forall_congr' fun d => ?_
      have := totalOf_subCoin hr d
      rw [totalOf_eq_amountOf hr', totalOf_eq_amountOf hb] at this
      rw [totalOf_cons, ← this, Nat.add_comm (amountOf r d), Nat.add_le_add_iff_left]

theorem supply_eq_sum (st : State) (d : String) : supply st d = (st.map (fun p => totalOf p.2 d)).sum := by
  rw [List.sum_eq_foldl, List.foldl_map]; rfl

@[simp] theorem supply_nil (d : String) : supply [] d = 0 := rfl

theorem supply_cons (k : String) (v : Coins) (st : State) (d : String) :
    supply ((k, v) :: st) d = totalOf v d + supply st d := by
  rw [supply_eq_sum, supply_eq_sum]; rfl

theorem balance_cons (k : String) (v : Coins) (m : State) (a : Addr) :
    balance ((k, v) :: m) a = if k = a then v else balance m a := by
  unfold balance; rw [AMap.get?_cons, apply_ite (Option.getD · [])]; rfl

theorem balance_eq_nil {st : State} {a : Addr} (h : ∀ p ∈ st, p.1 ≠ a) : balance st a = [] := by
  unfold balance; rw [AMap.get?_eq_none h]; rfl

-- sorted keys, not `NormInv`: the induction passes to the tail
theorem supply_set {st : State} (hs : st.Pairwise (fun p q => p.1 < q.1)) (a : String) (v : Coins) (d : String) :
    supply (AMap.set st a v) d + totalOf (balance st a) d = totalOf v d + supply st d := by
  induction st with
  | nil => rw [AMap.set, supply_cons]; rfl
  | cons q m ih =>
    obtain ⟨k0, v0⟩ := q
    have ⟨hx, hm⟩ := List.pairwise_cons.mp hs
    rcases AMap.set_cons_cases k0 v0 m a v with ⟨h1, e⟩ | ⟨h1, e⟩ | ⟨h1, e⟩ <;> rw [e, supply_cons, supply_cons]
    · -- `a` is below every key: it was not there
      rw [balance_eq_nil, totalOf_nil]; rfl
      exact List.forall_mem_cons.mpr
        ⟨(String.ne_of_lt h1).symm, fun p hp => (String.ne_of_lt (String.lt_trans h1 (hx p hp))).symm⟩
    · rw [balance_cons, if_pos h1.symm, Nat.add_assoc, Nat.add_comm (supply m d)]
    · rw [balance_cons, if_neg (String.ne_of_lt h1), Nat.add_assoc, ih hm, Nat.add_left_comm]

theorem NormInv.norm_balance {st : State} (h : NormInv st) (a : Addr) : Norm (balance st a) := by
  unfold balance
  cases hg : AMap.get? st a with
  | none => exact norm_nil
  | some v => exact h.2 (a, v) (AMap.mem_of_get?_eq_some hg)

/-- a stored balance shows, per denom, the sum of its entries. This is all that the balance equations
below need of the ledger; the staking proofs assume no more (`Staking.BankFacts.WF`). -/
theorem NormInv.queryBalance_eq_totalOf {st : State} (h : NormInv st) (a : Addr) (d : String) :
    queryBalance st a d = totalOf (balance st a) d :=
  (totalOf_eq_amountOf (h.norm_balance a) d).symm

theorem balance_setBalance (st : State) (a b : Addr) (cs : Coins) :
    balance (setBalance st a cs) b = if b = a then normalize cs else balance st b := by
  unfold balance setBalance; rw [AMap.get?_set, apply_ite (Option.getD · [])]; rfl

theorem queryBalance_setBalance (st : State) (a b : Addr) (cs : Coins) (d : String) :
    queryBalance (setBalance st a cs) b d = if b = a then totalOf cs d else queryBalance st b d := by
  unfold queryBalance; rw [balance_setBalance, apply_ite (amountOf · d), amountOf_normalize]

theorem NormInv_setBalance {st : State} (h : NormInv st) (a : Addr) (cs : Coins) :
    NormInv (setBalance st a cs) :=
  ⟨AMap.sorted_set h.1 _ _, fun p hp => (AMap.eq_or_mem_of_mem_set hp).elim (· ▸ norm_normalize cs) (h.2 p)⟩

theorem supply_setBalance {st : State} (h : NormInv st) (a : Addr) (cs : Coins) (d : String) :
    supply (setBalance st a cs) d + totalOf (balance st a) d = totalOf cs d + supply st d :=
  totalOf_normalize cs d ▸ supply_set h.1 a (normalize cs) d

theorem supply_eq_sum_queryBalance {st : State} (h : NormInv st) (as : List Addr) (hnd : as.Nodup)
    (hall : ∀ p ∈ st, p.1 ∈ as) (d : String) :
    supply st d = (as.map (fun a => queryBalance st a d)).sum := by
  induction st generalizing as with
  | nil =>
    refine (List.sum_eq_zero_iff_forall_eq_nat.mpr fun x hx => ?_).symm
    obtain ⟨a, _, rfl⟩ := List.mem_map.mp hx
    rfl
  | cons p m ih =>
    obtain ⟨k, v⟩ := p
    have ⟨hx, hs⟩ := List.pairwise_cons.mp h.1
    have ⟨hv, hn⟩ := List.forall_mem_cons.mp h.2
    have ⟨hk, hm⟩ := List.forall_mem_cons.mp hall
    have hne : ∀ p ∈ m, p.1 ≠ k := fun p hp => (String.ne_of_lt (hx p hp)).symm
    -- bring `k` to the front of `as`: it shows the head entry, and the other addresses show what
    -- they show in `m`, which holds all their entries
    rw [((List.perm_cons_erase hk).map _).sum_nat, List.map_cons, List.sum_cons, supply_cons,
      ih ⟨hs, hn⟩ (as.erase k) (hnd.erase k) fun p hp => (List.mem_erase_of_ne (hne p hp)).mpr (hm p hp)]
    unfold queryBalance
    rw [balance_cons, if_pos rfl, totalOf_eq_amountOf hv]
    refine congrArg (_ + List.sum ·) (List.map_congr_left fun a ha => ?_)
    rw [balance_cons, if_neg fun e => (hnd.mem_erase_iff.mp ha).1 e.symm]

theorem mint_eq_some {st st' : State} {a : Addr} {amt : Coins} (h : mint st a amt = some st') :
    ∃ cs, st' = setBalance st a cs ∧ ∀ d, totalOf cs d = totalOf (balance st a) d + totalOf amt d := by
  obtain ⟨r, hr, rfl⟩ := Option.map_eq_some_iff.mp h
  exact ⟨_, rfl, fun d => by rw [totalOf_foldl_addCoin, (normalizeAmount_eq_some hr).2]⟩

theorem burn_eq_some {st st' : State} {a : Addr} {amt : Coins} (h : burn st a amt = some st') :
    ∃ cs, st' = setBalance st a cs ∧ ∀ d, totalOf cs d + totalOf amt d = totalOf (balance st a) d := by
  obtain ⟨r, hr, h⟩ := Option.bind_eq_some_iff.mp h
  obtain ⟨b', hb', rfl⟩ := Option.map_eq_some_iff.mp h
  exact ⟨_, rfl, fun d => by rw [← (normalizeAmount_eq_some hr).2, totalOf_subCoins hb']⟩

/- `hw` is what `NormInv.queryBalance_eq_totalOf` gives; it stays a hypothesis in the next two lemmas because the
staking proofs have it from their weaker invariant. -/
theorem queryBalance_mint {st st' : State} {a : Addr} {amt : Coins}
    (hw : ∀ d, queryBalance st a d = totalOf (balance st a) d) (h : mint st a amt = some st') (x : Addr) (d : String) :
    queryBalance st' x d = queryBalance st x d + (if a = x then totalOf amt d else 0) := by
  obtain ⟨cs, rfl, ht⟩ := mint_eq_some h
  rw [queryBalance_setBalance]
  by_cases e : x = a
  · rw [if_pos e, if_pos e.symm, ht, e, hw]
  · rw [if_neg e, if_neg (Ne.symm e)]; rfl

theorem queryBalance_burn {st st' : State} {a : Addr} {amt : Coins}
    (hw : ∀ d, queryBalance st a d = totalOf (balance st a) d) (h : burn st a amt = some st') (x : Addr) (d : String) :
    queryBalance st' x d + (if a = x then totalOf amt d else 0) = queryBalance st x d := by
  obtain ⟨cs, rfl, ht⟩ := burn_eq_some h
  rw [queryBalance_setBalance]
  by_cases e : x = a
  · rw [if_pos e, if_pos e.symm, ht, e, hw]
  · rw [if_neg e, if_neg (Ne.symm e)]; rfl

theorem mint_spec {st st' : State} {a : Addr} {amt : Coins} (hinv : NormInv st) (h : mint st a amt = some st') :
    NormInv st' ∧
    (∀ x d, queryBalance st' x d = queryBalance st x d + (if a = x then totalOf amt d else 0)) ∧
    (∀ d, supply st' d = supply st d + totalOf amt d) := by
  obtain ⟨cs, rfl, ht⟩ := mint_eq_some h
  refine ⟨NormInv_setBalance hinv a cs, queryBalance_mint (hinv.queryBalance_eq_totalOf a) h, fun d => ?_⟩
  have := supply_setBalance hinv a cs d
  have := ht d
  omega

theorem burn_spec {st st' : State} {a : Addr} {amt : Coins} (hinv : NormInv st) (h : burn st a amt = some st') :
    NormInv st' ∧
    (∀ x d, queryBalance st' x d + (if a = x then totalOf amt d else 0) = queryBalance st x d) ∧
    (∀ d, supply st' d + totalOf amt d = supply st d) := by
  obtain ⟨cs, rfl, ht⟩ := burn_eq_some h
  refine ⟨NormInv_setBalance hinv a cs, queryBalance_burn (hinv.queryBalance_eq_totalOf a) h, fun d => ?_⟩
  have := supply_setBalance hinv a cs d
  have := ht d
  omega

theorem burn_isSome_iff {st : State} (hinv : NormInv st) {a : Addr} {amt : Coins} :
    (burn st a amt).isSome ↔ (¬ ∀ c ∈ amt, c.amount = 0) ∧ ∀ d, totalOf amt d ≤ queryBalance st a d := by
  rw [← normalizeAmount_eq_none_iff]
  unfold burn
  cases hr : normalizeAmount amt with
  | none => simp
  | some r =>
    have ⟨hnz, htot⟩ := normalizeAmount_eq_some hr
    simp only [Option.bind_some, Option.isSome_map, reduceCtorEq, not_false_eq_true, true_and, ← htot]
    exact subCoins_isSome_iff (hinv.norm_balance a) hnz

/-- after a successful `burn` the `mint` of the same amount cannot fail -/
theorem send_isSome (st : State) (frm to : Addr) (amt : Coins) :
    (send st frm to amt).isSome = (burn st frm amt).isSome := by
  unfold send
  cases hb : burn st frm amt with
  | none => rfl
  | some st1 =>
    obtain ⟨r, hr, _⟩ := Option.bind_eq_some_iff.mp hb
    simp [mint, hr]

/-! `total` and `bal` are reducible: lemmas stated with `totalOf` / `queryBalance` apply as they are. -/

abbrev total (amt : Coins) (d : String) : Nat := totalOf amt d
abbrev bal (st : State) (a : Addr) (d : String) : Nat := queryBalance st a d

/-- ledgers reachable from the empty one by genesis `init_balance` / `set_balance`, mint, burn, send -/
inductive Reachable : State → Prop where
  | empty : Reachable []
  | init {st} (a : Addr) (cs : Coins) : Reachable st → Reachable (setBalance st a cs)
  | mint {st st'} (a : Addr) (amt : Coins) : Reachable st → CwMt.Bank.mint st a amt = some st' → Reachable st'
  | burn {st st'} (a : Addr) (amt : Coins) : Reachable st → CwMt.Bank.burn st a amt = some st' → Reachable st'
  | send {st st'} (a b : Addr) (amt : Coins) : Reachable st → CwMt.Bank.send st a b amt = some st' → Reachable st'

inductive Op where
  | mint (to : Addr) (amt : Coins)
  | burn (frm : Addr) (amt : Coins)
  | send (frm to : Addr) (amt : Coins)
  deriving DecidableEq, Repr

/-- one operation on the ledger; `none` = the operation failed -/
def run (st : State) : Op → Option State
  | .mint to amt => Bank.mint st to amt
  | .burn frm amt => Bank.burn st frm amt
  | .send frm to amt => Bank.send st frm to amt

/-- "a failed operation changes nothing": the ledger after the operation -/
def step (st : State) (op : Op) : State := (run st op).getD st

def final (st : State) (ops : List Op) : State := ops.foldl step st

/-- what one operation, if it succeeds, adds to `(a, d)` -/
def credit (op : Op) (a : Addr) (d : String) : Nat :=
  match op with
  | .mint to amt => if to = a then totalOf amt d else 0
  | .burn _ _ => 0
  | .send _ to amt => if to = a then totalOf amt d else 0

/-- what one operation, if it succeeds, takes from `(a, d)` -/
def debit (op : Op) (a : Addr) (d : String) : Nat :=
  match op with
  | .mint _ _ => 0
  | .burn frm amt => if frm = a then totalOf amt d else 0
  | .send frm _ amt => if frm = a then totalOf amt d else 0

/-- Σ credits of the *successful* operations of a history started in `st` -/
def credits : State → List Op → Addr → String → Nat
  | _, [], _, _ => 0
  | st, op :: ops, a, d =>
    match run st op with
    | some st' => credit op a d + credits st' ops a d
    | none => credits st ops a d

/-- Σ debits of the *successful* operations of a history started in `st` -/
def debits : State → List Op → Addr → String → Nat
  | _, [], _, _ => 0
  | st, op :: ops, a, d =>
    match run st op with
    | some st' => debit op a d + debits st' ops a d
    | none => debits st ops a d

/-- coins created by one operation, if it succeeds -/
def mintedBy (op : Op) (d : String) : Nat :=
  match op with
  | .mint _ amt => totalOf amt d
  | _ => 0

/-- coins destroyed by one operation, if it succeeds -/
def burnedBy (op : Op) (d : String) : Nat :=
  match op with
  | .burn _ amt => totalOf amt d
  | _ => 0

/-- coins created by the successful operations of a history -/
def minted : State → List Op → String → Nat
  | _, [], _ => 0
  | st, op :: ops, d =>
    match run st op with
    | some st' => mintedBy op d + minted st' ops d
    | none => minted st ops d

/-- coins destroyed by the successful operations of a history -/
def burned : State → List Op → String → Nat
  | _, [], _ => 0
  | st, op :: ops, d =>
    match run st op with
    | some st' => burnedBy op d + burned st' ops d
    | none => burned st ops d

/-- every statement about what an operation does to a balance or to the supply is an instance of this -/
theorem run_spec {st st' : State} {op : Op} (hinv : NormInv st) (h : run st op = some st') :
    NormInv st' ∧
    (∀ a d, queryBalance st' a d + debit op a d = credit op a d + queryBalance st a d) ∧
    (∀ d, supply st' d + burnedBy op d = mintedBy op d + supply st d) := by
  cases op with
  | mint to amt =>
    obtain ⟨hi, hq, hs⟩ := mint_spec hinv h
    exact ⟨hi, fun a d => (hq a d).trans (Nat.add_comm _ _), fun d => (hs d).trans (Nat.add_comm _ _)⟩
  | burn frm amt =>
    obtain ⟨hi, hq, hs⟩ := burn_spec hinv h
    exact ⟨hi, fun a d => (hq a d).trans (Nat.zero_add _).symm, fun d => (hs d).trans (Nat.zero_add _).symm⟩
  | send frm to amt =>
    -- `send = burn; mint`: add the two equations
    obtain ⟨st1, hb, hm⟩ := Option.bind_eq_some_iff.mp h
    obtain ⟨hi1, hq1, hs1⟩ := burn_spec hinv hb
    obtain ⟨hi2, hq2, hs2⟩ := mint_spec hi1 hm
    refine ⟨hi2, fun a d => ?_, fun d => ((hs2 d).trans (hs1 d)).trans (Nat.zero_add _).symm⟩
    show _ + (if frm = a then totalOf amt d else 0) = (if to = a then totalOf amt d else 0) + _
    rw [hq2, ← hq1 a d, Nat.add_right_comm, Nat.add_comm]

theorem queryBalance_send {st st' : State} {frm to : Addr} {amt : Coins} (hinv : NormInv st)
    (h : send st frm to amt = some st') (a : Addr) (d : String) :
    queryBalance st' a d + (if frm = a then totalOf amt d else 0) =
      (if to = a then totalOf amt d else 0) + queryBalance st a d :=
  (run_spec (op := .send frm to amt) hinv h).2.1 a d

theorem supply_send {st st' : State} {frm to : Addr} {amt : Coins} (hinv : NormInv st)
    (h : send st frm to amt = some st') (d : String) : supply st' d = supply st d :=
  ((run_spec (op := .send frm to amt) hinv h).2.2 d).trans (Nat.zero_add _)

/-- stored balances are canonical (`norm_ext`): an operation that credits `a` what it debits it
leaves the stored list of `a` as it is, not only the amounts it shows -/
theorem run_balance_eq {st st' : State} {op : Op} (hinv : NormInv st) (h : run st op = some st') {a : Addr}
    (ha : ∀ d, credit op a d = debit op a d) : balance st' a = balance st a := by
  obtain ⟨hi, hq, _⟩ := run_spec hinv h
  refine norm_ext (hi.norm_balance a) (hinv.norm_balance a) fun d => ?_
  have := hq a d
  rw [ha, Nat.add_comm] at this
  exact Nat.add_left_cancel this

theorem add_moves {x y z i₁ d₁ i₂ d₂ : Nat} (h₁ : y + d₁ = i₁ + x) (h₂ : z + d₂ = i₂ + y) :
    z + (d₁ + d₂) = i₁ + i₂ + x := by
  omega

theorem history_spec {st : State} (hinv : NormInv st) (ops : List Op) :
    NormInv (final st ops) ∧
    (∀ a d, queryBalance (final st ops) a d + debits st ops a d = credits st ops a d + queryBalance st a d) ∧
    (∀ d, supply (final st ops) d + burned st ops d = minted st ops d + supply st d) := by
  induction ops generalizing st with
  | nil => exact ⟨hinv, fun _ _ => Nat.add_comm _ _, fun _ => Nat.add_comm _ _⟩
  | cons op ops ih =>
    have hf : final st (op :: ops) = final (step st op) ops := rfl
    rw [hf]
    unfold debits credits burned minted step
    cases h : run st op with
    | none => exact ih hinv
    | some st' =>
      obtain ⟨hi, hq, hs⟩ := run_spec hinv h
      obtain ⟨hi', hq', hs'⟩ := ih hi
      exact ⟨hi', fun a d => add_moves (hq a d) (hq' a d), fun d => add_moves (hs d) (hs' d)⟩

end Bank
end CwMt
