import CwMt.Model.Address
/-
  CwMt.Proofs.Address — SHA-256 digests, and hence canonical contract addresses and default checksums, are 32 bytes long.
-/
namespace CwMt.Sha256

theorem digest_length (msg : List UInt8) : (digest msg).length = 32 := by
  have h4 (x : UInt32) : (bytesOf32 x).length = 4 := rfl
  simp only [digest, List.length_append, h4]

end CwMt.Sha256

namespace CwMt.Address

theorem classicCanonical_length (c i : Nat) : (classicCanonical c i).length = 32 :=
  Sha256.digest_length _

theorem defaultChecksum_length (c : Nat) : (defaultChecksum c).length = 32 :=
  Sha256.digest_length _

theorem instantiate2_length (k c s a : List UInt8) (h : instantiate2Canonical k c s = .ok a) : a.length = 32 := by
  unfold instantiate2Canonical at h
  split at h
  · cases h
  · split at h
    · cases h
    · cases h; exact Sha256.digest_length _

end CwMt.Address
