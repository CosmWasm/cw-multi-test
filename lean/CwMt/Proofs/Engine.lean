import CwMt.Proofs.Engine_App
import CwMt.Proofs.Engine_Fuel
import CwMt.Proofs.Engine_Run
/-
  CwMt.Proofs.Engine — the engine family under one import, and what the induction over whole executions
  (`EngineInv.Runs_engine`) says when read off for one property. With no state relation asked for (`trivInv`): the trace
  only grows, every sender and environment shown is authentic. With `frameInv`: the storage frame. (That the ghost trace is
  a pure observer is `EngineInv.Runs.observer`, for every function at once.)
-/
namespace CwMt.Engine
open CwMt CwMt.EngineInv
variable {E : Type}

theorem trace_grows_execute (cfg : Config E) (blk : Block) (fuel : Nat) (ch : Chain E) (sender : Addr)
    (m : Msg) (tr : Trace) : ∃ new, (execute cfg blk fuel ch sender m tr).2 = tr ++ new :=
  (Runs_execute (trivInv cfg blk) fuel ch sender m).grows tr

theorem trace_grows_processResponse (cfg : Config E) (blk : Block) (fuel : Nat) (ch : Chain E) (c : Addr)
    (r : AppResponse) (l : List SubMsg) (tr : Trace) :
    ∃ new, (processResponse cfg blk fuel ch c r l tr).2 = tr ++ new :=
  (Runs_processResponse (trivInv cfg blk) fuel ch c r l).grows tr

theorem trace_grows_executeSubmsg (cfg : Config E) (blk : Block) (fuel : Nat) (ch : Chain E) (c : Addr)
    (sm : SubMsg) (tr : Trace) : ∃ new, (executeSubmsg cfg blk fuel ch c sm tr).2 = tr ++ new :=
  (Runs_executeSubmsg (trivInv cfg blk) fuel ch c sm).grows tr

theorem trace_grows_reply (cfg : Config E) (blk : Block) (fuel : Nat) (ch : Chain E) (c : Addr)
    (rp : Reply) (tr : Trace) : ∃ new, (reply cfg blk fuel ch c rp tr).2 = tr ++ new :=
  (Runs_reply (trivInv cfg blk) fuel ch c rp).grows tr

theorem sender_authentic (cfg : Config E) (blk : Block) (fuel : Nat) (ch : Chain E) (sender : Addr)
    (m : Msg) (tr : Trace) (new : Trace)
    (h : (execute cfg blk fuel ch sender m tr).2 = tr ++ new) : SendersFrom sender new :=
  ((Runs_execute (trivInv cfg blk) fuel ch sender m).calls h).senders

theorem env_authentic (cfg : Config E) (blk : Block) (fuel : Nat) (ch : Chain E) (sender : Addr)
    (m : Msg) (tr : Trace) (new : Trace)
    (h : (execute cfg blk fuel ch sender m tr).2 = tr ++ new) : ∀ e ∈ new, EnvOK blk e :=
  ((Runs_execute (trivInv cfg blk) fuel ch sender m).calls h).env

theorem cstore_frame (cfg : Config E) (hf : ExtFrame cfg) (blk : Block) (fuel : Nat) (ch ch' : Chain E)
    (sender : Addr) (m : Msg) (tr new : Trace) (r : AppResponse)
    (h : execute cfg blk fuel ch sender m tr = (.ok (r, ch'), tr ++ new))
    (a : Addr) (ha : ∀ e ∈ new, e.callee ≠ a) : ch'.cstore.get? a = ch.cstore.get? a :=
  (Runs_execute (frameInv cfg blk hf) fuel ch sender m).related h a ha

end CwMt.Engine

namespace CwMt.EngineObs
open CwMt CwMt.Engine
variable {E : Type}

/-- the part of `EngineInv.Runs` that speaks of the trace alone -/
def Uniform (f : Trace → EngineResult E) : Prop :=
  ∃ o new, ∀ tr, f tr = (o, tr ++ new)

theorem uniform_pure (o : Outcome (AppResponse × Chain E)) : Uniform (fun tr => (o, tr)) :=
  ⟨o, [], fun tr => by rw [List.append_nil]⟩

end CwMt.EngineObs
