import CwMt.Proofs.StakingBasic
import CwMt.Proofs.Outcome
/-
  CwMt.Proofs.StakingPrim — what each function of the staking model returns (names by the rule of DESIGN.md 0.1). A function
  that passes outcomes on is written once in bind form (`f_eq`): a `match` on an `Outcome` is `Outcome.bind`, on an `Option`
  it is `Option.elim`; inversion (`f_ok`) and absence of panics (`f_safe`) both come from it. The `_safe` lemmas that need the
  invariant are in `CwMt.Proofs.Staking`. `update_rewards` has a panic site of its own, the last `else` of
  `updateRewards_eq`, which cannot be reached under the invariant (`updateRewards_succeeds` in Staking). Nor can that of
  `applySlash`, and there `applySlash` is one `if` (`applySlash_eq` in Staking). "Shown" in a name is the delegation
  that the Delegation query shows (at least one whole token); the reward it shows is `shownReward`.

  No later file unfolds a function treated here; `dropIfEmpty`, `payOne`, `processQueue` and `advance` are unfolded once
  each, in the lemma that says what they do under the invariant, and `(Op.delegate a v coin).run cfg c` is
  `delegate cfg c a v coin` by definition.
-/
namespace CwMt
namespace Staking
open KMap Outcome

variable {s s' : SState} {now : Nat} {d : Addr} {v : String} {vi : ValInfo} {rem : Dec}

theorem validator?_congr (h : s'.validators = s.validators) (v : String) :
    s'.validator? v = s.validator? v := by rw [SState.validator?, SState.validator?, h]

/-- also for a validator total of 0, where both sides are 0 -/
theorem shareOfRewards_atomics (sh : Shares) (vi : ValInfo) (r : Dec) :
    (shareOfRewards sh vi r).atomics = r.atomics * sh.stake.atomics / Dec.ONE / vi.stake := by
  unfold shareOfRewards
  split
  · rename_i h0; rw [h0, Nat.div_zero]; rfl
  · rfl

theorem shareOfRewards_zero (sh : Shares) (vi : ValInfo) : shareOfRewards sh vi Dec.zero = Dec.zero :=
  Dec.ext (by rw [shareOfRewards_atomics]; simp [Dec.zero])

theorem shareOfRewards_dflt (vi : ValInfo) (nr : Dec) : shareOfRewards Shares.dflt vi nr = Dec.zero :=
  Dec.ext (by rw [shareOfRewards_atomics]; simp [Dec.zero, Shares.dflt])

theorem get?_creditAll (stakes : KMap (Addr × String) Shares) (v : String) (vi : ValInfo) (nr : Dec)
    (k : Addr × String) :
    get? (creditAll stakes v vi nr) k = (get? stakes k).map fun sh =>
      if k.2 = v ∧ k.1 ∈ vi.stakers then { sh with rewards := Dec.add sh.rewards (shareOfRewards sh vi nr) } else sh :=
  get?_mapVal stakes _ k

/-- a zero net reward credits nothing: the `is_zero` shortcut of `update_rewards` is the general case -/
theorem creditAll_zero (stakes : KMap (Addr × String) Shares) (v : String) (vi : ValInfo) :
    creditAll stakes v vi Dec.zero = stakes := by
  unfold creditAll
  conv => rhs; rw [← List.map_id stakes]
  apply List.map_congr_left
  intro p _
  simp only [shareOfRewards_zero, Dec.add_zero, ite_self, id]

def credited (s : SState) (now : Nat) (v : String) (vi : ValInfo) (nr : Dec) : SState :=
  { s with vinfo := KMap.set s.vinfo v { vi with last := now }, stakes := creditAll s.stakes v vi nr }

theorem get?_credited {sh : Shares} (nr : Dec) (hsh : get? s.stakes (d, v) = some sh)
    (hd : d ∈ vi.stakers) :
    get? (credited s now v vi nr).stakes (d, v) =
      some { sh with rewards := Dec.add sh.rewards (shareOfRewards sh vi nr) } := by
  rw [credited, get?_creditAll, hsh, Option.map_some, if_pos ⟨rfl, hd⟩]

/-- the `is_zero` shortcut folded in by `creditAll_zero`; the last `else` is the `expect` (staking.rs:336) -/
theorem updateRewards_eq (s : SState) (now : Nat) (v : String) :
    updateRewards s now v =
      (get? s.vinfo v).elim .err fun vi => (s.validator? v).elim .err fun vo =>
        if vi.last ≥ now then .ok s else
          (calcRewards now vi.last s.info.apr vo.commission vi.stake).bind fun nr =>
            if nr.isZero ∨ allStakersExist s.stakes v vi.stakers then .ok (credited s now v vi nr) else .panic := by
  unfold updateRewards
  cases get? s.vinfo v with
  | none => rfl
  | some vi =>
    cases s.validator? v with
    | none => rfl
    | some vo =>
      dsimp only [Option.elim]
      by_cases hge : vi.last ≥ now
      · rw [if_pos hge, if_pos hge]
      · rw [if_neg hge, if_neg hge]
        cases calcRewards now vi.last s.info.apr vo.commission vi.stake with
        | ok nr =>
          dsimp only [Outcome.bind]
          by_cases hz : nr.isZero = true
          · rw [if_pos hz, if_pos (Or.inl hz), credited, Dec.eq_zero_of_isZero hz, creditAll_zero]
          · by_cases hall : allStakersExist s.stakes v vi.stakers = true
            · rw [if_neg hz, if_pos hall, if_pos (Or.inr hall)]; rfl
            · rw [if_neg hz, if_neg hall, if_neg (fun h => h.elim hz hall)]
        | _ => rfl

theorem updateRewards_ok (h : updateRewards s now v = .ok s') :
    ∃ vi vo, get? s.vinfo v = some vi ∧ s.validator? v = some vo ∧
      (now ≤ vi.last ∧ s' = s ∨ ¬ now ≤ vi.last ∧
        ∃ nr, calcRewards now vi.last s.info.apr vo.commission vi.stake = .ok nr ∧ s' = credited s now v vi nr) := by
  rw [updateRewards_eq] at h
  obtain ⟨vi, hvi, h⟩ := elim_ok_iff.mp h
  obtain ⟨vo, hvo, h⟩ := elim_ok_iff.mp h
  refine ⟨vi, vo, hvi, hvo, ?_⟩
  by_cases hge : now ≤ vi.last
  · rw [if_pos hge] at h; exact .inl ⟨hge, (Outcome.ok.inj h).symm⟩
  · rw [if_neg hge] at h
    obtain ⟨nr, hnr, h⟩ := bind_ok_iff.mp h
    refine .inr ⟨hge, nr, hnr, ?_⟩
    by_cases hc : nr.isZero ∨ allStakersExist s.stakes v vi.stakers
    · rw [if_pos hc] at h; exact (Outcome.ok.inj h).symm
    · rw [if_neg hc] at h; cases h

theorem grossReward_atomics (now since : Nat) (apr : Dec) (S : Nat) :
    (grossReward now since apr S).atomics = S * apr.atomics * (elapsed now since) / YEAR := by
  unfold grossReward
  simp only [Dec.div, Dec.mul, Dec.ofNat]
  have h1 : Dec.ONE * S * apr.atomics / Dec.ONE = S * apr.atomics := by
    rw [Nat.mul_assoc]; exact Nat.mul_div_cancel_left _ Dec.ONE_pos
  rw [h1]
  have h2 : S * apr.atomics * (Dec.ONE * (elapsed now since)) / Dec.ONE = S * apr.atomics * (elapsed now since) := by
    rw [Nat.mul_left_comm]; exact Nat.mul_div_cancel_left _ Dec.ONE_pos
  rw [h2]
  exact Nat.mul_div_mul_left _ _ Dec.ONE_pos

theorem grossReward_same (now : Nat) (apr : Dec) (stake : Nat) : grossReward now now apr stake = Dec.zero := by
  apply Dec.ext
  rw [grossReward_atomics, elapsed, Nat.sub_self, Nat.mul_zero, Nat.zero_div]
  rfl

theorem netReward_eq (r c : Dec) (hc : c.atomics ≤ Dec.ONE) :
    netReward r c = .ok (Dec.sub r (Dec.mul r c)) :=
  if_neg (Nat.not_lt.mpr (Dec.mul_le_left r hc))

theorem calcRewards_eq (now since : Nat) (apr c : Dec) (stake : Nat) (h : since ≤ now) (hc : c.atomics ≤ Dec.ONE) :
    calcRewards now since apr c stake =
      .ok (Dec.sub (grossReward now since apr stake) (Dec.mul (grossReward now since apr stake) c)) := by
  unfold calcRewards
  rw [if_neg (Nat.not_lt.mpr (Nat.div_le_div_right h)), netReward_eq _ _ hc]

theorem calcRewards_same (now : Nat) (apr c : Dec) (stake : Nat) : calcRewards now now apr c stake = .ok Dec.zero := by
  rw [calcRewards, if_neg (Nat.lt_irrefl _), grossReward_same, netReward, Dec.zero_mul,
    if_neg (show ¬ Dec.zero < Dec.zero from Nat.lt_irrefl _)]
  rfl

theorem calcRewards_cases (now since : Nat) (apr c : Dec) (stake : Nat) :
    calcRewards now since apr c stake = .panic ∨ ∃ nr, calcRewards now since apr c stake = .ok nr := by
  unfold calcRewards netReward
  by_cases h1 : now / NS < since / NS
  · rw [if_pos h1]; exact Or.inl rfl
  · rw [if_neg h1]
    by_cases h2 : grossReward now since apr stake < Dec.mul (grossReward now since apr stake) c
    · rw [if_pos h2]; exact Or.inl rfl
    · rw [if_neg h2]; exact Or.inr ⟨_, rfl⟩

theorem curShares_of_get? {sh : Shares} (h : get? s.stakes (d, v) = some sh) : curShares s d v = sh := by
  rw [curShares, h]; rfl

theorem curShares_of_none (h : get? s.stakes (d, v) = none) : curShares s d v = Shares.dflt := by
  rw [curShares, h]; rfl

theorem curShares_congr (h : get? s'.stakes (d, v) = get? s.stakes (d, v)) :
    curShares s' d v = curShares s d v := by rw [curShares, curShares, h]

theorem viOf_of_get? (h : get? s.vinfo v = some vi) : viOf s now v = vi := by
  rw [viOf, h]; rfl

/-- the delegation's fractional value, `zero` without record; the Delegation query shows its floor -/
def stakeOf (s : SState) (d : Addr) (v : String) : Dec := (curShares s d v).stake

theorem stakeOf_of_get? {sh : Shares} (h : get? s.stakes (d, v) = some sh) : stakeOf s d v = sh.stake := by
  rw [stakeOf, curShares_of_get? h]

theorem stakeOf_of_none (h : get? s.stakes (d, v) = none) : stakeOf s d v = Dec.zero := by
  rw [stakeOf, curShares_of_none h]; rfl

theorem stakeOf_congr (h : get? s'.stakes (d, v) = get? s.stakes (d, v)) :
    stakeOf s' d v = stakeOf s d v := by rw [stakeOf, stakeOf, curShares_congr h]

theorem get?_of_shown (h : 1 ≤ (stakeOf s d v).floor) : ∃ sh, get? s.stakes (d, v) = some sh := by
  cases hg : get? s.stakes (d, v) with
  | none => rw [stakeOf_of_none hg, Dec.floor_zero] at h; cases h
  | some sh => exact ⟨sh, rfl⟩

theorem stakeSaved_eq (s : SState) (d : Addr) (v : String) (sh' : Shares) (vi' : ValInfo) :
    stakeSaved s d v sh' vi' =
      { s with stakes := if sh'.stake.isZero then erase s.stakes (d, v) else KMap.set s.stakes (d, v) sh',
               vinfo := KMap.set s.vinfo v
                 { vi' with stakers := if sh'.stake.isZero then setErase vi'.stakers d else setInsert vi'.stakers d } } := by
  unfold stakeSaved; split <;> rfl

theorem get?_stakeSaved_stakes (s : SState) (d : Addr) (v : String) (sh' : Shares) (vi' : ValInfo) (k : Addr × String) :
    get? (stakeSaved s d v sh' vi').stakes k =
      if k = (d, v) then (if sh'.stake.isZero then none else some sh') else get? s.stakes k := by
  rw [stakeSaved_eq]
  by_cases hz : sh'.stake.isZero = true
  · simp only [if_pos hz]; exact get?_erase _ _ _
  · simp only [if_neg hz]; exact get?_set _ _ _ _

theorem get?_stakeSaved_vinfo (s : SState) (d : Addr) (v : String) (sh' : Shares) (vi' : ValInfo) (w : String) :
    get? (stakeSaved s d v sh' vi').vinfo w =
      if w = v then some { vi' with stakers := if sh'.stake.isZero then setErase vi'.stakers d else setInsert vi'.stakers d }
      else get? s.vinfo w := by
  rw [stakeSaved_eq]; exact get?_set _ _ _ _

theorem stakeOf_stakeSaved (s : SState) (d : Addr) (v : String) (sh' : Shares) (vi' : ValInfo) :
    stakeOf (stakeSaved s d v sh' vi') d v = sh'.stake := by
  have hg := get?_stakeSaved_stakes s d v sh' vi' (d, v)
  rw [if_pos rfl] at hg
  by_cases hz : sh'.stake.isZero = true
  · rw [if_pos hz] at hg; rw [stakeOf_of_none hg, Dec.eq_zero_of_isZero hz]
  · rw [if_neg hz] at hg; exact stakeOf_of_get? hg

theorem applyStake_eq (s : SState) (now : Nat) (d : Addr) (v : String) (amount : Nat) (sub : Bool) :
    applyStake s now d v amount sub =
      if sub = true → (get? s.stakes (d, v)).isSome ∧ Dec.ofNat amount ≤ (curShares s d v).stake ∧
          amount ≤ (viOf s now v).stake then
        .ok (stakeSaved s d v
          { curShares s d v with stake := if sub then Dec.sub (curShares s d v).stake (Dec.ofNat amount)
                                          else Dec.add (curShares s d v).stake (Dec.ofNat amount) }
          { viOf s now v with stake := if sub then (viOf s now v).stake - amount else (viOf s now v).stake + amount })
      else .err := by
  unfold applyStake
  cases sub with
  | false => rfl
  | true =>
    cases hg : get? s.stakes (d, v) with
    | none => simp
    | some sh =>
      rw [curShares_of_get? hg]
      by_cases h1 : sh.stake < Dec.ofNat amount
      · have : ¬ Dec.ofNat amount ≤ sh.stake := Nat.not_le.mpr h1
        simp [h1, this]
      · have : Dec.ofNat amount ≤ sh.stake := Nat.le_of_not_lt h1
        by_cases h2 : (viOf s now v).stake < amount
        · simp [h1, h2, Nat.not_le.mpr h2]
        · simp [h1, h2, this, Nat.le_of_not_lt h2]

theorem applyStake_ok {amount : Nat} {sub : Bool} (h : applyStake s now d v amount sub = .ok s') :
    (sub = true → (get? s.stakes (d, v)).isSome ∧ Dec.ofNat amount ≤ (curShares s d v).stake ∧
      amount ≤ (viOf s now v).stake) ∧
    s' = stakeSaved s d v
      { curShares s d v with stake := if sub then Dec.sub (curShares s d v).stake (Dec.ofNat amount)
                                      else Dec.add (curShares s d v).stake (Dec.ofNat amount) }
      { viOf s now v with stake := if sub then (viOf s now v).stake - amount else (viOf s now v).stake + amount } := by
  rw [applyStake_eq] at h
  exact ⟨(ite_err_ok_iff.mp h).1, (Outcome.ok.inj (ite_err_ok_iff.mp h).2).symm⟩

theorem applyStake_safe (s : SState) (now : Nat) (d : Addr) (v : String) (amount : Nat) (sub : Bool) :
    Safe (applyStake s now d v amount sub) := by
  rw [applyStake_eq]
  exact safe_ite (fun _ => safe_ok _) (fun _ => safe_err)

theorem updateStake_eq (s : SState) (now : Nat) (d : Addr) (v : String) (amount : Nat) (sub : Bool) :
    updateStake s now d v amount sub = (updateRewards s now v).bind fun s1 => applyStake s1 now d v amount sub := by
  unfold updateStake; cases updateRewards s now v <;> rfl

theorem updateStake_ok_iff {amount : Nat} {sub : Bool} :
    updateStake s now d v amount sub = .ok s' ↔
      ∃ s1, updateRewards s now v = .ok s1 ∧ applyStake s1 now d v amount sub = .ok s' := by
  rw [updateStake_eq]; exact bind_ok_iff

theorem addStake_eq (s : SState) (now : Nat) (d : Addr) (v : String) (c : Coin) :
    addStake s now d v c = if c.denom = s.info.bondedDenom then updateStake s now d v c.amount false else .err := by
  simp [addStake, denomOk]

theorem removeStake_eq (s : SState) (now : Nat) (d : Addr) (v : String) (c : Coin) :
    removeStake s now d v c = if c.denom = s.info.bondedDenom then updateStake s now d v c.amount true else .err := by
  simp [removeStake, denomOk]

theorem addStake_ok_iff {c : Coin} :
    addStake s now d v c = .ok s' ↔ c.denom = s.info.bondedDenom ∧ updateStake s now d v c.amount false = .ok s' := by
  rw [addStake_eq]; exact ite_err_ok_iff

theorem removeStake_ok_iff {c : Coin} :
    removeStake s now d v c = .ok s' ↔ c.denom = s.info.bondedDenom ∧ updateStake s now d v c.amount true = .ok s' := by
  rw [removeStake_eq]; exact ite_err_ok_iff

theorem get?_scaleAll (stakes : KMap (Addr × String) Shares) (v : String) (l : List Addr) (rem : Dec)
    (k : Addr × String) :
    get? (scaleAll stakes v l rem) k = (get? stakes k).map fun sh =>
      if k.2 = v ∧ k.1 ∈ l then { sh with stake := Dec.mul sh.stake rem } else sh :=
  get?_mapVal stakes _ k

theorem scaleAll_cons (p : (Addr × String) × Shares) (m : KMap (Addr × String) Shares) (v : String) (l : List Addr)
    (rem : Dec) :
    scaleAll (p :: m) v l rem =
      (p.1, if p.1.2 = v ∧ p.1.1 ∈ l then { p.2 with stake := Dec.mul p.2.stake rem } else p.2) :: scaleAll m v l rem :=
  rfl

theorem removeAll_cons (p : (Addr × String) × Shares) (m : KMap (Addr × String) Shares) (v : String) (l : List Addr) :
    removeAll (p :: m) v l = if p.1.2 = v ∧ p.1.1 ∈ l then removeAll m v l else p :: removeAll m v l := by
  unfold removeAll
  by_cases e : p.1.2 = v ∧ p.1.1 ∈ l
  · rw [if_pos e, List.filter_cons, if_neg fun h => absurd e (of_decide_eq_true h)]
  · rw [if_neg e, List.filter_cons, if_pos (decide_eq_true e)]

theorem get?_removeAll (stakes : KMap (Addr × String) Shares) (v : String) (l : List Addr) (k : Addr × String) :
    get? (removeAll stakes v l) k = if k.2 = v ∧ k.1 ∈ l then none else get? stakes k := by
  rw [removeAll, get?_filterKey stakes (fun k => decide (¬ (k.2 = v ∧ k.1 ∈ l))) k]
  by_cases h : k.2 = v ∧ k.1 ∈ l <;> simp [h]

theorem remOf_le_one (p : Dec) : (remOf p).atomics ≤ Dec.ONE := Nat.sub_le _ _

theorem slash_eq (s : SState) (now : Nat) (v : String) (p : Dec) :
    slash s now v p =
      (updateRewards s now v).bind fun s1 => (get? s1.vinfo v).elim .panic fun vi => applySlash s1 v vi (remOf p) := by
  unfold slash
  cases updateRewards s now v with
  | ok s1 => dsimp only [Outcome.bind]; cases get? s1.vinfo v <;> rfl
  | _ => rfl

variable {cfg : Cfg} {c c' : Chain} {a : Addr} {coin : Coin}

theorem delegate_eq (cfg : Cfg) (c : Chain) (a : Addr) (v : String) (coin : Coin) :
    delegate cfg c a v coin =
      if coin.amount = 0 then .err else
        (addStake c.st c.time a v coin).bind fun st =>
          (Bank.send c.bank a cfg.pool [coin]).elim .err fun bank => .ok { c with st := st, bank := bank } := by
  unfold delegate
  split
  · rfl
  · cases addStake c.st c.time a v coin with
    | ok st => dsimp only [Outcome.bind]; cases Bank.send c.bank a cfg.pool [coin] <;> rfl
    | _ => rfl

theorem delegate_ok (h : delegate cfg c a v coin = .ok c') :
    coin.amount ≠ 0 ∧ coin.denom = c.st.info.bondedDenom ∧
      ∃ st bank, updateStake c.st c.time a v coin.amount false = .ok st ∧
        Bank.send c.bank a cfg.pool [coin] = some bank ∧ c' = { c with st := st, bank := bank } := by
  rw [delegate_eq] at h
  split at h
  · cases h
  · obtain ⟨st, hst, h⟩ := bind_ok_iff.mp h
    obtain ⟨bank, hb, h⟩ := elim_ok_iff.mp h
    obtain ⟨hd, hst⟩ := addStake_ok_iff.mp hst
    exact ⟨‹_›, hd, st, bank, hst, hb, (Outcome.ok.inj h).symm⟩

theorem undelegate_eq (c : Chain) (a : Addr) (v : String) (coin : Coin) :
    undelegate c a v coin =
      if coin.denom = c.st.info.bondedDenom ∧ coin.amount ≠ 0 then
        (updateStake c.st c.time a v coin.amount true).bind fun st =>
          .ok { c with st := { st with queue := st.queue ++
            [⟨a, v, coin.amount, c.time + NS * st.info.unbondingTime⟩] } }
      else .err := by
  unfold undelegate
  by_cases hd : coin.denom = c.st.info.bondedDenom
  · by_cases h0 : coin.amount = 0
    · simp [denomOk, hd, h0]
    · have hden : denomOk c.st coin.denom = true := decide_eq_true hd
      rw [if_neg (not_not_intro hden), if_neg h0, removeStake_eq, if_pos hd, if_pos (And.intro hd h0)]
      cases updateStake c.st c.time a v coin.amount true <;> rfl
  · simp [denomOk, hd]

theorem undelegate_ok_iff :
    undelegate c a v coin = .ok c' ↔ coin.denom = c.st.info.bondedDenom ∧ coin.amount ≠ 0 ∧
      ∃ st, updateStake c.st c.time a v coin.amount true = .ok st ∧
        c' = { c with st := { st with queue := st.queue ++
            [⟨a, v, coin.amount, c.time + NS * st.info.unbondingTime⟩] } } := by
  rw [undelegate_eq, ite_err_ok_iff, bind_ok_iff, and_assoc]
  constructor
  · rintro ⟨hden, hnz, st, hst, h⟩
    exact ⟨hden, hnz, st, hst, (Outcome.ok.inj h).symm⟩
  · rintro ⟨hden, hnz, st, hst, rfl⟩
    exact ⟨hden, hnz, st, hst, rfl⟩

theorem redelegate_eq (c : Chain) (a : Addr) (v v2 : String) (coin : Coin) :
    redelegate c a v v2 coin =
      (removeStake c.st c.time a v coin).bind fun st1 =>
        (addStake st1 c.time a v2 coin).bind fun st2 => .ok { c with st := st2 } := by
  unfold redelegate
  cases removeStake c.st c.time a v coin with
  | ok st1 => dsimp only [Outcome.bind]; cases addStake st1 c.time a v2 coin <;> rfl
  | _ => rfl

theorem redelegate_ok {v2 : String} (h : redelegate c a v v2 coin = .ok c') :
    coin.denom = c.st.info.bondedDenom ∧
      ∃ st1 st2, updateStake c.st c.time a v coin.amount true = .ok st1 ∧
        updateStake st1 c.time a v2 coin.amount false = .ok st2 ∧ c' = { c with st := st2 } := by
  rw [redelegate_eq] at h
  obtain ⟨st1, h1, h⟩ := bind_ok_iff.mp h
  obtain ⟨st2, h2, h⟩ := bind_ok_iff.mp h
  obtain ⟨hden, h1⟩ := removeStake_ok_iff.mp h1
  exact ⟨hden, st1, st2, h1, (addStake_ok_iff.mp h2).2, (Outcome.ok.inj h).symm⟩

theorem sudoSlash_eq (c : Chain) (v : String) (p : Dec) :
    sudoSlash c v p = if Dec.one < p then .err else (slash c.st c.time v p).bind fun st => .ok { c with st := st } := by
  unfold sudoSlash
  split
  · rfl
  · cases slash c.st c.time v p <;> rfl

theorem sudoSlash_ok {p : Dec} (h : sudoSlash c v p = .ok c') :
    p ≤ Dec.one ∧ ∃ s1 vi st, updateRewards c.st c.time v = .ok s1 ∧ get? s1.vinfo v = some vi ∧
      applySlash s1 v vi (remOf p) = .ok st ∧ c' = { c with st := st } := by
  rw [sudoSlash_eq] at h
  split at h
  · cases h
  · rename_i hp
    obtain ⟨st, hst, h⟩ := bind_ok_iff.mp h
    rw [slash_eq] at hst
    obtain ⟨s1, h1, hst⟩ := bind_ok_iff.mp hst
    cases hvi : get? s1.vinfo v with
    | none => rw [hvi] at hst; cases hst
    | some vi => rw [hvi] at hst; exact ⟨Nat.le_of_not_lt hp, s1, vi, st, h1, hvi, hst, (Outcome.ok.inj h).symm⟩

theorem withdrawAddr_congr (h : s'.withdraw = s.withdraw) (a : Addr) :
    withdrawAddr s' a = withdrawAddr s a := by rw [withdrawAddr, withdrawAddr, h]

theorem withdrawRewards_eq (cfg : Cfg) (c : Chain) (a : Addr) (v : String) :
    withdrawRewards cfg c a v =
      (updateRewards c.st c.time v).bind fun st =>
        (get? st.stakes (a, v)).elim .err fun sh =>
          if ¬ cfg.valid (withdrawAddr st a) then .err else
            (Bank.mint c.bank (withdrawAddr st a) [⟨st.info.bondedDenom, sh.rewards.floor⟩]).elim .err fun bank =>
              .ok { c with st := { st with stakes := KMap.set st.stakes (a, v) { sh with rewards := Dec.zero } },
                           bank := bank } := by
  unfold withdrawRewards
  cases updateRewards c.st c.time v with
  | ok st =>
    dsimp only [Outcome.bind]
    cases get? st.stakes (a, v) with
    | none => rfl
    | some sh =>
      dsimp only [Option.elim]
      cases Bank.mint c.bank (withdrawAddr st a) [⟨st.info.bondedDenom, sh.rewards.floor⟩] <;> rfl
  | _ => rfl

theorem withdrawRewards_ok (h : withdrawRewards cfg c a v = .ok c') :
    ∃ st sh bank, updateRewards c.st c.time v = .ok st ∧ get? st.stakes (a, v) = some sh ∧
      cfg.valid (withdrawAddr st a) = true ∧
      Bank.mint c.bank (withdrawAddr st a) [⟨st.info.bondedDenom, sh.rewards.floor⟩] = some bank ∧
      c' = { c with st := { st with stakes := KMap.set st.stakes (a, v) { sh with rewards := Dec.zero } },
                    bank := bank } := by
  rw [withdrawRewards_eq] at h
  obtain ⟨st, hst, h⟩ := bind_ok_iff.mp h
  obtain ⟨sh, hsh, h⟩ := elim_ok_iff.mp h
  by_cases hv : cfg.valid (withdrawAddr st a) = true
  · rw [if_neg (not_not_intro hv)] at h
    obtain ⟨bank, hb, h⟩ := elim_ok_iff.mp h
    exact ⟨st, sh, bank, hst, hsh, hv, hb, (Outcome.ok.inj h).symm⟩
  · rw [if_pos hv] at h; cases h

theorem setWithdraw_eq (cfg : Cfg) (c : Chain) (a b : Addr) :
    setWithdraw cfg c a b =
      if cfg.valid b then
        .ok { c with st := { c.st with
          withdraw := if a = b then KMap.erase c.st.withdraw a else KMap.set c.st.withdraw a b } }
      else .err := by
  unfold setWithdraw
  by_cases hv : cfg.valid b = true <;> by_cases e : a = b <;> simp [hv, e]

theorem setWithdraw_ok {b : Addr} (h : setWithdraw cfg c a b = .ok c') :
    cfg.valid b = true ∧ c' = { c with st := { c.st with
      withdraw := if a = b then KMap.erase c.st.withdraw a else KMap.set c.st.withdraw a b } } := by
  rw [setWithdraw_eq] at h
  exact ⟨(ite_err_ok_iff.mp h).1, (Outcome.ok.inj (ite_err_ok_iff.mp h).2).symm⟩

theorem step_of_ok {op : Op} (h : op.run cfg c = .ok c') : step cfg c op = (c', .ok) := by
  rw [step, h]

theorem step_of_not_ok {op : Op} (h : ∀ c', op.run cfg c ≠ .ok c') :
    (step cfg c op).1 = c ∧ (step cfg c op).2 ≠ .ok ∧ (Safe (op.run cfg c) → (step cfg c op).2 = .err) := by
  unfold step
  cases hrun : op.run cfg c with
  | ok c' => exact absurd hrun (h c')
  | err => exact ⟨rfl, nofun, fun _ => rfl⟩
  | panic => exact ⟨rfl, nofun, fun hs => absurd rfl hs.1⟩
  | outOfFuel => exact ⟨rfl, nofun, fun hs => absurd rfl hs.2⟩

theorem run_cases (cfg : Cfg) (c : Chain) (op : Op) :
    (∃ c', op.run cfg c = .ok c') ∨ ∀ c', op.run cfg c ≠ .ok c' := by
  cases op.run cfg c with
  | ok c' => exact Or.inl ⟨c', rfl⟩
  | _ => exact Or.inr fun _ h => by cases h

theorem shownReward_eq {vo : Validator} {nr : Dec} (sh : Shares)
    (h : calcRewards now vi.last s.info.apr vo.commission vi.stake = .ok nr) :
    shownReward s now sh vo vi = .ok (Dec.add sh.rewards (shareOfRewards sh vi nr)).floor := by
  rw [shownReward, h]

theorem shownReward_congr (h : s'.info = s.info) (now : Nat) (sh : Shares) (vo : Validator) (vi : ValInfo) :
    shownReward s' now sh vo vi = shownReward s now sh vo vi := by
  rw [shownReward, shownReward, h]

theorem shownReward_uptodate (s : SState) (now : Nat) (sh : Shares) (vo : Validator) (vi : ValInfo)
    (h : vi.last = now) : shownReward s now sh vo vi = .ok sh.rewards.floor := by
  subst h
  rw [shownReward_eq sh (calcRewards_same _ _ _ _), shareOfRewards_zero, Dec.add_zero]

theorem queryDelegation_congr {c1 c2 : Chain} {w : String}
    (h1 : c1.st.validators = c2.st.validators) (h2 : get? c1.st.vinfo w = get? c2.st.vinfo w)
    (h3 : curShares c1.st d w = curShares c2.st d w) (h4 : c1.st.info = c2.st.info) (h5 : c1.time = c2.time) :
    queryDelegation cfg c1 d w = queryDelegation cfg c2 d w := by
  unfold queryDelegation
  rw [validator?_congr h1, h2, h3, h5]
  simp only [shownReward_congr h4]

theorem queryDelegation_eq {vo : Validator} (d : Addr)
    (hvo : c.st.validator? v = some vo) (hvi : get? c.st.vinfo v = some vi) :
    queryDelegation cfg c d v =
      if ¬ cfg.valid d then .err else
        (shownReward c.st c.time (curShares c.st d v) vo vi).bind fun r =>
          if (curShares c.st d v).stake.floor = 0 then .ok none
          else .ok (some ((curShares c.st d v).stake.floor, r)) := by
  simp only [queryDelegation, hvo, hvi]
  by_cases hval : cfg.valid d = true
  · rw [if_neg (not_not_intro hval), if_neg (not_not_intro hval)]
    cases shownReward c.st c.time (curShares c.st d v) vo vi <;> rfl
  · rw [if_pos hval, if_pos hval]

end Staking
end CwMt
