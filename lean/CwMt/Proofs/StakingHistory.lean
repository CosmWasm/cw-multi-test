import CwMt.Proofs.StakingSlash
import CwMt.Proofs.StakingBounds
/-
  CwMt.Proofs.StakingHistory — C15 at history level: every run of the model is a trace of the reward ledger of
  `CwMt.Proofs.StakingBounds` for any delegator/validator pair `(d, v)` whose delegation stays shown and is not re-staked.

  This is the record view of the operations (StakingOps has the stake view): an operation reaches the accumulator of the
  pair only through `update_rewards` of `v`, which adds `creditAmt` (`updateRewards_pair`), and through `d`'s own
  withdrawal, which resets it; `run_pair` says so for every operation. `Tracks` is the relation between chain and ledger,
  `Tracks_step` its one step; `track` is the ledger of a model history, as `Ledger.run` is that of an abstract one.
-/
namespace CwMt
namespace Staking
open KMap

/-- the validators whose rewards an operation updates (in order) -/
def Op.updates : Op → List String
  | .delegate _ w _ => [w]
  | .undelegate _ w _ => [w]
  | .redelegate _ w1 w2 _ => [w1, w2]
  | .withdraw _ w => [w]
  | .slash w _ => [w]
  | .setWithdraw _ _ => []
  | .advance _ => []

/-- the operation changes the stake of the pair `(d, v)` other than by slashing -/
def Op.restakes (d : Addr) (v : String) : Op → Prop
  | .delegate a w _ => a = d ∧ w = v
  | .undelegate a w _ => a = d ∧ w = v
  | .redelegate a w1 w2 _ => a = d ∧ (w1 = v ∨ w2 = v)
  | _ => False

/-- a `Bool`, unlike `restakes` and `okFor`: the executable `trackStep` branches on it, the other two are hypotheses only -/
def Op.isWithdrawOf (d : Addr) (v : String) : Op → Bool
  | .withdraw a w => a = d && w = v
  | _ => false

/-- a reward update of `v` in chain `c`, as a step of the ledger of `(d, v)`: a `credit` with the validator total, the
share and the time span read off the chain — or nothing when the rewards are up to date. An update within the same whole
second is a `credit` of 0 (`elapsed` is 0, as in `creditAmt`), and counts as an update. -/
def creditL (c : Chain) (d : Addr) (v : String) (l : Ledger) : Ledger :=
  match get? c.st.vinfo v, c.st.validator? v with
  | some vi, some vo =>
    if vi.last < c.time then
      l.step c.st.info.apr.atomics vo.commission.atomics
        (.credit ⟨vi.stake, (curShares c.st d v).stake.atomics, elapsed c.time vi.last⟩)
    else l
  | _, _ => l

/-- nothing if the operation is rejected; `0 0`: a `withdraw` step reads neither rate nor commission -/
def trackStep (cfg : Cfg) (d : Addr) (v : String) (c : Chain) (op : Op) (l : Ledger) : Ledger :=
  if (step cfg c op).2 = .ok then
    let l1 := if v ∈ op.updates then creditL c d v l else l
    if op.isWithdrawOf d v then l1.step 0 0 .withdraw else l1
  else l

def track (cfg : Cfg) (d : Addr) (v : String) : Chain → List Op → Ledger → Ledger
  | _, [], l => l
  | c, op :: ops, l => track cfg d v (step cfg c op).1 ops (trackStep cfg d v c op l)

/-- the delegation of `d` to `v` is shown (≥ 1 whole token) before, between and after all operations -/
def ShownAll (cfg : Cfg) (d : Addr) (v : String) : Chain → List Op → Prop
  | c, [] => 1 ≤ (stakeOf c.st d v).floor
  | c, op :: ops => 1 ≤ (stakeOf c.st d v).floor ∧ ShownAll cfg d v (step cfg c op).1 ops

instance decShownAll (cfg : Cfg) (d : Addr) (v : String) : (c : Chain) → (ops : List Op) →
    Decidable (ShownAll cfg d v c ops)
  | c, [] => inferInstanceAs (Decidable (1 ≤ (stakeOf c.st d v).floor))
  | c, op :: ops =>
    @instDecidableAnd _ _ (inferInstanceAs (Decidable (1 ≤ (stakeOf c.st d v).floor)))
      (decShownAll cfg d v (step cfg c op).1 ops)

variable {cfg : Cfg} {c c' : Chain} {d : Addr} {v : String} {sh : Shares} {vi : ValInfo} {vo : Validator}

theorem Op.isWithdrawOf_withdraw {a : Addr} {w : String} : (Op.withdraw a w).isWithdrawOf d v = true ↔ a = d ∧ w = v := by
  show (decide (a = d) && decide (w = v)) = true ↔ _
  rw [Bool.and_eq_true, decide_eq_true_iff, decide_eq_true_iff]

theorem shareOfRewards_eq_creditOf {now since : Nat} {apr c : Dec} {nr : Dec} (sh : Shares)
    (hc : c.atomics ≤ Dec.ONE) (hle : since ≤ now) (h : calcRewards now since apr c vi.stake = .ok nr) :
    (shareOfRewards sh vi nr).atomics = creditOf vi.stake apr.atomics c.atomics sh.stake.atomics (elapsed now since) := by
  rw [calcRewards_eq now since apr c vi.stake hle hc] at h
  cases h
  rw [shareOfRewards_atomics, creditOf]
  simp only [Dec.mul, Dec.sub, grossReward_atomics]

/-- `creditOf` read off a state; `creditL` is the same as a step of the ledger -/
def creditAmt (s : SState) (now : Nat) (vo : Validator) (vi : ValInfo) (sa : Nat) : Nat :=
  creditOf vi.stake s.info.apr.atomics vo.commission.atomics sa (elapsed now vi.last)

theorem creditAmt_uptodate (s : SState) (vo : Validator) {now : Nat} (sa : Nat) (h : now ≤ vi.last) :
    creditAmt s now vo vi sa = 0 := by
  have : elapsed now vi.last = 0 := Nat.sub_eq_zero_of_le (Nat.div_le_div_right h)
  simp [creditAmt, creditOf, this]

/-- the `_pair` lemmas follow the record of one pair `(d, v)` (with the info `vi` and the validator `vo` of `v`) through an
operation of anybody at any validator `w`; the last conjunct, `now ≤ vi1.last` after an update of `v` itself, is what lets
`redelegate_pair` see that a second update of `v` in the same operation credits nothing -/
theorem updateRewards_pair {s s1 : SState} {now : Nat} {w : String}
    (hi : SInv s) (h : updateRewards s now w = .ok s1) (hsh : get? s.stakes (d, v) = some sh)
    (hvi : get? s.vinfo v = some vi) (hvo : s.validator? v = some vo) :
    get? s1.stakes (d, v) = some { sh with rewards :=
      ⟨sh.rewards.atomics + (if w = v then creditAmt s now vo vi sh.stake.atomics else 0)⟩ } ∧
    ∃ vi1, get? s1.vinfo v = some vi1 ∧ (if w = v then now ≤ vi1.last else vi1 = vi) := by
  by_cases e : w = v
  · subst e
    simp only [if_pos]
    obtain ⟨vi', vo', hvi', hvo', hcases⟩ := updateRewards_ok h
    cases hvi.symm.trans hvi'
    cases hvo.symm.trans hvo'
    obtain ⟨hle, rfl⟩ | ⟨hlt, nr, hnr, rfl⟩ := hcases
    · exact ⟨by rw [creditAmt_uptodate _ _ _ hle]; exact hsh, vi, hvi, hle⟩
    · have hcr := shareOfRewards_eq_creditOf sh (hi.comm_le vo (List.mem_of_find?_eq_some hvo)) (Nat.le_of_not_le hlt) hnr
      exact ⟨by rw [creditAmt, ← hcr]; exact get?_credited nr hsh (hi.mem_stakers hsh hvi), _, get?_set_self _ _ _,
        Nat.le_refl now⟩
  · have ur := updateRewards_spec h
    have e' : v ≠ w := fun x => e x.symm
    simp only [if_neg e]
    exact ⟨(ur.stakes_other e').trans hsh, vi, (ur.vinfo_other v e').trans hvi, rfl⟩

theorem updateStake_pair {s s' : SState} {now : Nat} {a : Addr} {w : String} {amount : Nat} {sub : Bool}
    (hi : SInv s) (h : updateStake s now a w amount sub = .ok s') (hne : (a, w) ≠ (d, v))
    (hsh : get? s.stakes (d, v) = some sh) (hvi : get? s.vinfo v = some vi) (hvo : s.validator? v = some vo) :
    get? s'.stakes (d, v) = some { sh with rewards :=
      ⟨sh.rewards.atomics + (if w = v then creditAmt s now vo vi sh.stake.atomics else 0)⟩ } ∧
    ∃ vi', get? s'.vinfo v = some vi' ∧ (if w = v then now ≤ vi'.last else vi' = vi) := by
  obtain ⟨s1, h1, h2⟩ := updateStake_ok_iff.mp h
  obtain ⟨r1, vi1, r4, r5⟩ := updateRewards_pair hi h1 hsh hvi hvo
  obtain ⟨_, rfl⟩ := applyStake_ok h2
  refine ⟨by rw [get?_stakeSaved_stakes, if_neg (fun e => hne e.symm)]; exact r1, ?_⟩
  by_cases e : w = v
  · subst e
    simp only [if_pos] at r5 ⊢
    exact ⟨_, by rw [get?_stakeSaved_vinfo, if_pos rfl], by rw [viOf_of_get? r4]; exact r5⟩
  · exact ⟨vi1, by rw [get?_stakeSaved_vinfo, if_neg (fun x => e x.symm)]; exact r4, r5⟩

structure PairAt (c : Chain) (d : Addr) (v : String) (sh : Shares) (vi : ValInfo) (vo : Validator) : Prop where
  record : get? c.st.stakes (d, v) = some sh
  vinfo : get? c.st.vinfo v = some vi
  val : c.st.validator? v = some vo
  shown : 1 ≤ sh.stake.floor

theorem PairAt_of_shown (hi : Inv cfg c)
    (hvo : c.st.validator? v = some vo) (hs : 1 ≤ (stakeOf c.st d v).floor) :
    ∃ sh vi, PairAt c d v sh vi vo ∧ curShares c.st d v = sh := by
  obtain ⟨sh, hg⟩ := get?_of_shown hs
  obtain ⟨vi, hvi, _⟩ := hi.sinv.stakes_listed d v sh hg
  rw [stakeOf_of_get? hg] at hs
  exact ⟨sh, vi, ⟨hg, hvi, hvo, hs⟩, curShares_of_get? hg⟩

theorem redelegate_pair {a : Addr} {w1 w2 : String} {coin : Coin} (hi : SInv c.st) (hp : PairAt c d v sh vi vo)
    (hnr : ¬ (a = d ∧ (w1 = v ∨ w2 = v))) (h : redelegate c a w1 w2 coin = .ok c') :
    ∃ sh', get? c'.st.stakes (d, v) = some sh' ∧
      sh'.rewards.atomics = sh.rewards.atomics +
        (if w1 = v ∨ w2 = v then creditAmt c.st c.time vo vi sh.stake.atomics else 0) := by
  have hne1 : (a, w1) ≠ (d, v) := fun e => hnr ⟨(Prod.mk.inj e).1, Or.inl (Prod.mk.inj e).2⟩
  have hne2 : (a, w2) ≠ (d, v) := fun e => hnr ⟨(Prod.mk.inj e).1, Or.inr (Prod.mk.inj e).2⟩
  obtain ⟨_, st1, st2, h1, h2, rfl⟩ := redelegate_ok h
  have s1 := updateStake_spec h1
  obtain ⟨a1, vi1, a4, a5⟩ := updateStake_pair hi h1 hne1 hp.record hp.vinfo hp.val
  obtain ⟨b1, _⟩ := updateStake_pair (s1.sinv hi) h2 hne2 a1 a4 ((validator?_congr s1.validators v).trans hp.val)
  refine ⟨_, b1, ?_⟩
  -- the second update of `v` credits only if the first was of another validator
  by_cases e1 : w1 = v
  · rw [if_pos e1] at a5; simp [e1, creditAmt_uptodate _ _ _ a5]
  · rw [if_neg e1] at a5; simp [e1, a5, creditAmt, s1.info]

theorem withdrawRewards_pair {a : Addr} {w : String} (hi : SInv c.st) (hp : PairAt c d v sh vi vo)
    (h : withdrawRewards cfg c a w = .ok c') :
    ∃ sh', get? c'.st.stakes (d, v) = some sh' ∧
      sh'.rewards.atomics = if a = d ∧ w = v then 0 else
        sh.rewards.atomics + (if w = v then creditAmt c.st c.time vo vi sh.stake.atomics else 0) := by
  obtain ⟨st, _, _, hst, _, _, _, rfl⟩ := withdrawRewards_ok h
  obtain ⟨r1, _⟩ := updateRewards_pair hi hst hp.record hp.vinfo hp.val
  by_cases own : a = d ∧ w = v
  · obtain ⟨rfl, rfl⟩ := own
    exact ⟨_, get?_set_self _ _ _, (if_pos ⟨rfl, rfl⟩).symm⟩
  · have hne : (d, v) ≠ (a, w) := fun e => own ⟨(Prod.mk.inj e).1.symm, (Prod.mk.inj e).2.symm⟩
    exact ⟨_, (get?_set_ne _ _ hne).trans r1, (if_neg own).symm⟩

theorem withdrawRewards_pair_mint (hi : SInv c.st) (hp : PairAt c d v sh vi vo) (h : withdrawRewards cfg c d v = .ok c') :
    Bank.mint c.bank (withdrawAddr c.st d)
      [⟨c.st.info.bondedDenom, (sh.rewards.atomics + creditAmt c.st c.time vo vi sh.stake.atomics) / Dec.ONE⟩]
      = some c'.bank := by
  obtain ⟨st, sh0, bank, hst, hsh0, _, hb, rfl⟩ := withdrawRewards_ok h
  have ur := updateRewards_spec hst
  obtain ⟨r1, _⟩ := updateRewards_pair hi hst hp.record hp.vinfo hp.val
  cases r1.symm.trans hsh0
  rw [withdrawAddr_congr ur.withdraw d, ur.info, Dec.floor, if_pos rfl] at hb
  exact hb

theorem sudoSlash_pair {w : String} {p : Dec} (hi : SInv c.st) (hp : PairAt c d v sh vi vo)
    (h : sudoSlash c w p = .ok c') (hrem : (get? c'.st.stakes (d, v)).isSome) :
    ∃ sh', get? c'.st.stakes (d, v) = some sh' ∧
      sh'.rewards.atomics = sh.rewards.atomics + (if w = v then creditAmt c.st c.time vo vi sh.stake.atomics else 0) := by
  by_cases e : w = v
  · subst e
    obtain ⟨s1, sh1, _, _, h1, hsh1, _, hsh', _⟩ := sudoSlash_remaining hi h hrem
    obtain ⟨r1, _⟩ := updateRewards_pair hi h1 hp.record hp.vinfo hp.val
    cases r1.symm.trans hsh1
    exact ⟨_, hsh', rfl⟩
  · exact ⟨sh, ((sudoSlash_effect hi h).other_records (d, v) (fun x => e x.symm)).trans hp.record, by rw [if_neg e]; rfl⟩

theorem run_pair {op : Op} (hi : Inv cfg c) (hp : PairAt c d v sh vi vo) (hnr : ¬ op.restakes d v)
    (hrun : op.run cfg c = .ok c') (hs' : 1 ≤ (stakeOf c'.st d v).floor) :
    ∃ sh', get? c'.st.stakes (d, v) = some sh' ∧
      sh'.rewards.atomics = if op.isWithdrawOf d v then 0 else
        sh.rewards.atomics + if v ∈ op.updates then creditAmt c.st c.time vo vi sh.stake.atomics else 0 := by
  have hne : ∀ {a w}, ¬ (a = d ∧ w = v) → (a, w) ≠ (d, v) := fun h e => h ⟨(Prod.mk.inj e).1, (Prod.mk.inj e).2⟩
  cases op with
  | delegate a w coin =>
    obtain ⟨_, _, st, bank, hst, _, rfl⟩ := delegate_ok hrun
    obtain ⟨r1, _⟩ := updateStake_pair hi.sinv hst (hne hnr) hp.record hp.vinfo hp.val
    exact ⟨_, r1, congrArg (sh.rewards.atomics + ·) (ite_mem_singleton v w _ _).symm⟩
  | undelegate a w coin =>
    obtain ⟨_, _, st, hst, rfl⟩ := undelegate_ok_iff.mp hrun
    obtain ⟨r1, _⟩ := updateStake_pair hi.sinv hst (hne hnr) hp.record hp.vinfo hp.val
    exact ⟨_, r1, congrArg (sh.rewards.atomics + ·) (ite_mem_singleton v w _ _).symm⟩
  | redelegate a w1 w2 coin =>
    obtain ⟨sh', r1, r2⟩ := redelegate_pair hi.sinv hp hnr hrun
    exact ⟨sh', r1, r2.trans (congrArg (sh.rewards.atomics + ·) (ite_mem_pair v w1 w2 _ _).symm)⟩
  | withdraw a w =>
    obtain ⟨sh', r1, r2⟩ := withdrawRewards_pair hi.sinv hp hrun
    refine ⟨sh', r1, r2.trans ?_⟩
    by_cases own : a = d ∧ w = v
    · rw [if_pos own, if_pos (Op.isWithdrawOf_withdraw.mpr own)]
    · rw [if_neg own, if_neg (mt Op.isWithdrawOf_withdraw.mp own)]
      exact congrArg (sh.rewards.atomics + ·) (ite_mem_singleton v w _ _).symm
  | setWithdraw a b =>
    cases (setWithdraw_ok hrun).2
    exact ⟨sh, hp.record, rfl⟩
  | slash w p =>
    -- only a slash can remove the record: this is where `hs'` is needed
    obtain ⟨x, hx⟩ := get?_of_shown hs'
    obtain ⟨sh', r1, r2⟩ := sudoSlash_pair hi.sinv hp hrun (by rw [hx]; rfl)
    exact ⟨sh', r1, r2.trans (congrArg (sh.rewards.atomics + ·) (ite_mem_singleton v w _ _).symm)⟩
  | advance dt =>
    -- a block update keeps every record that shows at least one token
    obtain ⟨c2, _, h2, _, _, r⟩ := advance_succeeds (cfg := cfg) dt hi
    cases h2.symm.trans hrun
    exact ⟨sh, r.kept d v sh hp.record hp.shown, rfl⟩

theorem ShownAll.head {ops : List Op} (h : ShownAll cfg d v c ops) :
    1 ≤ (stakeOf c.st d v).floor := by
  cases ops with
  | nil => exact h
  | cons op ops => exact h.1

theorem creditL_eq (hp : PairAt c d v sh vi vo) (l : Ledger) :
    creditL c d v l =
      if vi.last < c.time then
        l.step c.st.info.apr.atomics vo.commission.atomics (.credit ⟨vi.stake, sh.stake.atomics, elapsed c.time vi.last⟩)
      else l := by
  rw [creditL, hp.vinfo, hp.val, curShares_of_get? hp.record]

theorem creditL_acc (hp : PairAt c d v sh vi vo) (l : Ledger) :
    (creditL c d v l).acc = l.acc + creditAmt c.st c.time vo vi sh.stake.atomics := by
  rw [creditL_eq hp]
  split
  · rfl
  · rename_i hlt
    rw [creditAmt_uptodate _ _ _ (Nat.le_of_not_lt hlt)]; rfl

theorem creditL_paid_w (hp : PairAt c d v sh vi vo) (l : Ledger) :
    (creditL c d v l).paid = l.paid ∧ (creditL c d v l).w = l.w := by
  rw [creditL_eq hp]
  by_cases h : vi.last < c.time
  · rw [if_pos h]; exact ⟨rfl, rfl⟩
  · rw [if_neg h]; exact ⟨rfl, rfl⟩

theorem TInv.ev_ok {s : SState} (ht : TInv s) (hs : get? s.stakes (d, v) = some sh) (hv : get? s.vinfo v = some vi)
    (hpos : 1 ≤ sh.stake.floor) (T : Nat) : (Ev.mk vi.stake sh.stake.atomics T).ok :=
  ⟨Nat.lt_of_lt_of_le hpos (ht.floor_le_total hs hv), Nat.le_of_lt (ht.share_lt_total_succ hs hv)⟩

theorem Ledger.Good_creditL (hi : Inv cfg c) (hp : PairAt c d v sh vi vo) (l : Ledger) (hg : l.Good) :
    (creditL c d v l).Good := by
  rw [creditL_eq hp]
  split
  · exact Ledger.Good_step _ _ (hi.sinv.comm_le vo (List.mem_of_find?_eq_some hp.val)) l _
      (hi.tinv.ev_ok hp.record hp.vinfo hp.shown _) hg
  · exact hg

/-- the crediting part of a step of `trackStep`, `P` being `v ∈ op.updates` -/
theorem creditL_ite (hi : Inv cfg c) (hp : PairAt c d v sh vi vo) (P : Prop) [Decidable P] {l : Ledger} (hg : l.Good) :
    (if P then creditL c d v l else l).Good ∧
      (if P then creditL c d v l else l).acc = l.acc + if P then creditAmt c.st c.time vo vi sh.stake.atomics else 0 := by
  by_cases h : P
  · rw [if_pos h, if_pos h]; exact ⟨Ledger.Good_creditL hi hp l hg, creditL_acc hp l⟩
  · rw [if_neg h, if_neg h]; exact ⟨hg, rfl⟩

theorem trackStep_of_ok {op : Op} (d : Addr) (v : String) (l : Ledger)
    (hrun : op.run cfg c = .ok c') :
    trackStep cfg d v c op l =
      if op.isWithdrawOf d v then Ledger.step 0 0 (if v ∈ op.updates then creditL c d v l else l) .withdraw
      else if v ∈ op.updates then creditL c d v l else l := by
  rw [trackStep, step_of_ok hrun, if_pos rfl]

theorem trackStep_of_not_ok {op : Op} (d : Addr) (v : String) (l : Ledger)
    (h : ∀ c', op.run cfg c ≠ .ok c') : trackStep cfg d v c op l = l := by
  rw [trackStep, if_neg (step_of_not_ok h).2.1]

theorem trackStep_own_withdraw (l : Ledger)
    (hrun : (Op.withdraw d v).run cfg c = .ok c') :
    trackStep cfg d v c (.withdraw d v) l = Ledger.step 0 0 (creditL c d v l) .withdraw := by
  rw [trackStep_of_ok d v l hrun, if_pos (Op.isWithdrawOf_withdraw.mpr ⟨rfl, rfl⟩),
    if_pos (show v ∈ (Op.withdraw d v).updates from List.mem_singleton.mpr rfl)]

/-- `acc`: the ledger's accumulator is the record's -/
structure Tracks (cfg : Cfg) (d : Addr) (v : String) (vo : Validator) (c : Chain) (l : Ledger) : Prop where
  inv : Inv cfg c
  val : c.st.validator? v = some vo
  shown : 1 ≤ (stakeOf c.st d v).floor
  good : l.Good
  acc : l.acc = (curShares c.st d v).rewards.atomics

theorem Tracks_step {op : Op} {l : Ledger}
    (t : Tracks cfg d v vo c l) (hop : op.okFor cfg) (hnr : ¬ op.restakes d v)
    (hs' : 1 ≤ (stakeOf (step cfg c op).1.st d v).floor) :
    Tracks cfg d v vo (step cfg c op).1 (trackStep cfg d v c op l) := by
  obtain ⟨sh, vi, hp, hc⟩ := PairAt_of_shown t.inv t.val t.shown
  have hacc : l.acc = sh.rewards.atomics := hc ▸ t.acc
  suffices h : (step cfg c op).1.st.validator? v = some vo ∧ (trackStep cfg d v c op l).Good ∧
      (trackStep cfg d v c op l).acc = (curShares (step cfg c op).1.st d v).rewards.atomics from
    ⟨Inv_step t.inv hop, h.1, hs', h.2.1, h.2.2⟩
  rcases run_cases cfg c op with ⟨c', hrun⟩ | hrun
  · rw [step_of_ok hrun] at hs' ⊢
    obtain ⟨sh', r1, r2⟩ := run_pair t.inv hp hnr hrun hs'
    obtain ⟨hg1, ha1⟩ := creditL_ite t.inv hp (v ∈ op.updates) t.good
    rw [trackStep_of_ok d v l hrun, curShares_of_get? r1, r2]
    refine ⟨(validator?_congr (run_fixed t.inv hrun).1 v).trans t.val, ?_⟩
    by_cases hw : op.isWithdrawOf d v = true
    · rw [if_pos hw, if_pos hw]
      exact ⟨Ledger.Good_step 0 0 (Nat.zero_le _) _ .withdraw trivial hg1, rfl⟩
    · rw [if_neg hw, if_neg hw]
      exact ⟨hg1, hacc ▸ ha1⟩
  · rw [trackStep_of_not_ok d v l hrun, (step_of_not_ok hrun).1, hc]
    exact ⟨t.val, t.good, hacc⟩

theorem Tracks_runAll (ops : List Op) (c : Chain) (l : Ledger) (t : Tracks cfg d v vo c l)
    (hok : ∀ op ∈ ops, op.okFor cfg ∧ ¬ op.restakes d v) (hs : ShownAll cfg d v c ops) :
    Tracks cfg d v vo (runAll cfg c ops).1 (track cfg d v c ops l) := by
  induction ops generalizing c l with
  | nil => exact t
  | cons op ops ih =>
    exact ih _ _ (Tracks_step t (hok op List.mem_cons_self).1 (hok op List.mem_cons_self).2 hs.2.head)
      (fun o ho => hok o (List.mem_cons_of_mem _ ho)) hs.2

/-- the Delegation query is one more (virtual) reward update followed by a floor -/
theorem Tracks.queryDelegation_eq {l : Ledger}
    (t : Tracks cfg d v vo c l) (hvalid : cfg.valid d = true) :
    queryDelegation cfg c d v = .ok (some ((stakeOf c.st d v).floor, (creditL c d v l).acc / Dec.ONE)) := by
  obtain ⟨sh, vi, hp, hc⟩ := PairAt_of_shown t.inv t.val t.shown
  have hcm := t.inv.sinv.comm_le vo (List.mem_of_find?_eq_some hp.val)
  have hle := t.inv.last_le v vi hp.vinfo
  have hcalc := calcRewards_eq c.time vi.last c.st.info.apr vo.commission vi.stake hle hcm
  rw [Staking.queryDelegation_eq d hp.val hp.vinfo, if_neg (not_not_intro hvalid), hc, shownReward_eq sh hcalc, Outcome.bind,
    if_neg (Nat.ne_of_gt hp.shown), stakeOf, hc, creditL_acc hp l, t.acc, hc, creditAmt,
    ← shareOfRewards_eq_creditOf sh hcm hle hcalc]
  rfl

end Staking
end CwMt
