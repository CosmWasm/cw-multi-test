import CwMt.Model.Wire
/-
  CwMt.Proofs.EngineB_Wire — varint / protobuf round trips (C04): one induction, `unvarintAux_varintAux`, with the fuels
  of encoder and decoder independent, serves `unvarint` here and the cw-utils parser in CwMt/Proofs/Executor.lean. And
  the instance interleaving theorem (C19), over the defining equations of its vocabulary, which the Props file holds.
-/
namespace CwMt.EngineB
open CwMt

theorem mod_add_div_shift (n shift : Nat) : n % 128 * 2 ^ shift + n / 128 * 2 ^ (shift + 7) = n * 2 ^ shift := by
  rw [Nat.pow_add, Nat.mul_comm (2 ^ shift) (2 ^ 7), ← Nat.mul_assoc, ← Nat.add_mul, Nat.mul_comm (n / 128),
    Nat.add_comm, Nat.div_add_mod]

theorem unvarintAux_last (g n shift acc : Nat) (rest : List UInt8) (hn : n < 128) :
    unvarintAux (g + 1) (UInt8.ofNat n :: rest) shift acc = some (acc + n * 2 ^ shift, rest) := by
  rw [unvarintAux, UInt8.toNat_ofNat_of_lt' (Nat.lt_trans hn (by decide)), if_pos hn, Nat.mod_eq_of_lt hn]

theorem unvarintAux_more (g n shift acc : Nat) (rest : List UInt8) :
    unvarintAux (g + 1) (UInt8.ofNat (n % 128 + 128) :: rest) shift acc =
      unvarintAux g rest (shift + 7) (acc + n % 128 * 2 ^ shift) := by
  have hm : n % 128 < 128 := Nat.mod_lt _ (by decide)
  rw [unvarintAux, UInt8.toNat_ofNat_of_lt' (Nat.add_lt_add_right hm 128), if_neg (Nat.not_lt.2 (Nat.le_add_left 128 _)),
    Nat.add_mod_right, Nat.mod_mod]

/-- The decoder reads back what the encoder wrote whenever each has fuel for `n`; the two fuels are independent
(`varint` encodes with 10, `unvarint` decodes with 10, cw-utils' `parse_protobuf_varint` with 9). -/
theorem unvarintAux_varintAux (f : Nat) : ∀ (g n shift acc : Nat) (rest : List UInt8),
    n < 128 ^ (f + 1) → n < 128 ^ (g + 1) →
    unvarintAux (g + 1) (varintAux (f + 1) n ++ rest) shift acc = some (acc + n * 2 ^ shift, rest) := by
  have hdiv : ∀ n k : Nat, n < 128 ^ (k + 1 + 1) → n / 128 < 128 ^ (k + 1) := fun n k h =>
    Nat.div_lt_of_lt_mul (Nat.lt_of_lt_of_eq h Nat.pow_succ')
  induction f with
  | zero =>
    intro g n shift acc rest hf _
    rw [varintAux, if_pos hf]
    exact unvarintAux_last g n shift acc rest hf
  | succ f ih =>
    intro g n shift acc rest hf hg
    rw [varintAux]
    by_cases hn : n < 128
    · rw [if_pos hn]
      exact unvarintAux_last g n shift acc rest hn
    · cases g with
      | zero => exact absurd hg hn
      | succ g =>
        rw [if_neg hn, List.cons_append, unvarintAux_more,
          ih g (n / 128) (shift + 7) _ rest (hdiv n f hf) (hdiv n g hg), Nat.add_assoc, mod_add_div_shift]

theorem unvarint_varint (n : Nat) (rest : List UInt8) (h : n < 128 ^ 10) :
    unvarint (varint n ++ rest) = some (n, rest) := by
  unfold unvarint varint
  rw [unvarintAux_varintAux 9 9 n 0 0 rest h h]
  simp

/-- prost omits a field that has its default value, so an empty `bs` leaves no bytes: it is read back as empty only if
what follows does not begin with the same tag (`hr`). -/
theorem takeField_lenField (tag : UInt8) (bs rest : List UInt8) (h : bs.length < 128 ^ 10)
    (hr : bs ≠ [] ∨ rest.head? ≠ some tag) :
    takeField tag (lenField tag bs ++ rest) = some (bs, rest) := by
  unfold lenField
  cases bs with
  | nil =>
    simp only [List.isEmpty_nil, if_true, List.nil_append]
    cases rest with
    | nil => rfl
    | cons t rest' =>
      have : t ≠ tag := by
        rcases hr with hr | hr
        · exact absurd rfl hr
        · intro ht; apply hr; simp [ht]
      simp [takeField, this]
  | cons b bs' =>
    simp only [List.isEmpty_cons, Bool.false_eq_true, if_false, List.cons_append, takeField, if_true,
      List.append_assoc]
    rw [unvarint_varint _ _ h]
    simp

section Inter
variable {σ ι ο : Type}

/-- `C19.stepTwo` (not recursive, so the two constants are identified by unfolding) -/
def stepTwo (step : σ → ι → σ × ο) (s : σ × σ) (op : Bool × ι) : (σ × σ) × ο :=
  if op.1 then let (a, o) := step s.1 op.2; ((a, s.2), o) else let (b, o) := step s.2 op.2; ((s.1, b), o)

/-- The C19 vocabulary (`runOne`, `runTwo`) is defined in the Props file, so the lemma is stated for
any pair of functions satisfying the defining equations of `C19.runOne` / `C19.runTwo`. The default `by intros; rfl`
of the four equations runs where the lemma is applied: for the C19 pair it closes them, for any other pair it fails
there and the equations have to be supplied. -/
theorem interleaving
    {runOne : (σ → ι → σ × ο) → σ → List ι → σ × List ο}
    {runTwo : (σ → ι → σ × ο) → σ × σ → List (Bool × ι) → (σ × σ) × List (Bool × ο)}
    (step : σ → ι → σ × ο) (s : σ × σ) (ops : List (Bool × ι))
    (h1n : ∀ s, runOne step s [] = (s, []) := by intros; rfl)
    (h1c : ∀ s i is, runOne step s (i :: is) =
      ((runOne step (step s i).1 is).1, (step s i).2 :: (runOne step (step s i).1 is).2) := by intros; rfl)
    (h2n : ∀ s, runTwo step s [] = (s, []) := by intros; rfl)
    (h2c : ∀ (s : σ × σ) (op : Bool × ι) ops, runTwo step s (op :: ops) =
      ((runTwo step (stepTwo step s op).1 ops).1,
       (op.1, (stepTwo step s op).2) :: (runTwo step (stepTwo step s op).1 ops).2) := by
        intros; rfl) :
    let own (b : Bool) := (ops.filter (·.1 == b)).map (·.2)
    (runTwo step s ops).1.1 = (runOne step s.1 (own true)).1 ∧
    (runTwo step s ops).1.2 = (runOne step s.2 (own false)).1 ∧
    ((runTwo step s ops).2.filter (·.1 == true)).map (·.2) = (runOne step s.1 (own true)).2 ∧
    ((runTwo step s ops).2.filter (·.1 == false)).map (·.2) = (runOne step s.2 (own false)).2 := by
  intro own
  induction ops generalizing s with
  | nil => simp [own, h1n, h2n]
  | cons op ops ih =>
    obtain ⟨b, i⟩ := op
    obtain ⟨s1, s2⟩ := s
    rw [h2c]
    -- the instance addressed takes the step and its history gains `i`; the other keeps state and history
    cases b
    · obtain ⟨e1, e2, e3, e4⟩ := ih (s1, (step s2 i).1)
      refine ⟨e1, ?_, ?_, ?_⟩
      · show _ = (runOne step s2 (i :: _)).1
        rw [h1c]; exact e2
      · exact e3
      · show (_ :: _ : List _) = (runOne step s2 (i :: _)).2
        rw [h1c]; exact congrArg _ e4
    · obtain ⟨e1, e2, e3, e4⟩ := ih ((step s1 i).1, s2)
      refine ⟨?_, e2, ?_, e4⟩
      · show _ = (runOne step s1 (i :: _)).1
        rw [h1c]; exact e1
      · show (_ :: _ : List _) = (runOne step s1 (i :: _)).2
        rw [h1c]; exact congrArg _ e3

end Inter

end CwMt.EngineB
