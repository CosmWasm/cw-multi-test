import CwMt.Proofs.Engine_Basic
import CwMt.Proofs.EngineB_Engine
/-
  CwMt.Proofs.Engine_Call — one step of `execute`: a single `callContract`; the three contract-calling arms as their
  guards decide them (`execute_wasmExecute_cases`, `execute_wasmInstantiate_cases`, `execute_wasmMigrate_cases`: a fixed
  failure, or `mapResp f (callThen …)` on a known state) with what follows from each; the steps that record no invocation,
  collected in `Quiet`; and `execute_cases`: `execute (fuel + 1)` is a quiet step that ends the run, or a quiet step
  followed by `callThen`.
-/
namespace CwMt.Engine
open CwMt
variable {E : Type}

def Callable (cfg : Config E) (ch : Chain E) (addr : Addr) : Prop :=
  ∃ cd code, ch.contracts.get? addr = some cd ∧ contractCode? cfg cd.codeId = some code

/-- Outcome, note and appended entry are fixed before the trace so far is known; an `ok` result differs from the
input state only in the callee's window. -/
theorem callContract_cases (cfg : Config E) (blk : Block) (ch : Chain E) (addr : Addr) (en : Entry) :
    (¬ Callable cfg ch addr ∧ ∀ tr, callContract cfg blk ch addr en tr = (.err, tr)) ∨
    (Callable cfg ch addr ∧ ∃ note o,
      (∀ tr, callContract cfg blk ch addr en tr = (o, tr ++ [⟨addr, en, contractEnv blk addr, note⟩])) ∧
      ∀ resp ch', o = .ok (resp, ch') → ∃ own', ch' = { ch with cstore := ch.cstore.set addr own' }) := by
  cases hcd : ch.contracts.get? addr with
  | none =>
    exact .inl ⟨(by rintro ⟨_, _, h, _⟩; rw [hcd] at h; cases h), fun tr => by simp only [callContract, hcd]⟩
  | some cd =>
    cases hcode : contractCode? cfg cd.codeId with
    | none =>
      exact .inl ⟨(by rintro ⟨_, _, h, h'⟩; rw [hcd] at h; cases h; rw [hcode] at h'; cases h'),
        fun tr => by simp only [callContract, hcd, hcode]⟩
    | some code =>
      refine .inr ⟨⟨cd, code, hcd, hcode⟩, ?_⟩
      have e := fun tr => EngineB.callContract_eq cfg blk ch addr en tr hcd hcode
      rcases hrun : code.run en (contractEnv blk addr) ch ((ch.cstore.get? addr).getD []) with ⟨res, note⟩
      simp only [hrun] at e
      refine ⟨note, ?_⟩
      cases res with
      | ok p =>
        by_cases hok : responseOk p.1 = true
        · exact ⟨.ok (p.1, { ch with cstore := ch.cstore.set addr p.2 }), fun tr => (e tr).trans (if_pos hok),
            fun _ _ h => ⟨p.2, (Prod.mk.inj (Outcome.ok.inj h)).2.symm⟩⟩
        · exact ⟨.err, fun tr => (e tr).trans (if_neg hok), fun _ _ h => by cases h⟩
      | _ => exact ⟨_, e, fun _ _ h => by cases h⟩

theorem execute_wasmExecute_cases (cfg : Config E) (blk : Block) (ch : Chain E) (s : Addr) (c : String) (m : Val)
    (funds : Coins) :
    (∃ o, (∀ fuel tr, execute cfg blk (fuel + 1) ch s (.wasmExecute c m funds) tr = (o, tr)) ∧ o.isOk = false) ∨
    ∃ ch1, sendFunds ch s c funds = .ok ch1 ∧
      ∀ fuel tr, execute cfg blk (fuel + 1) ch s (.wasmExecute c m funds) tr =
        mapResp (fun r => { r with data := r.data.map encodeExecuteResponse })
          (callThen cfg blk fuel ch1 c (.execute ⟨s, funds⟩ m) { ty := "execute", attrs := [contractAttr c] } tr) := by
  by_cases hv : (!cfg.validAddr c) = true
  · exact .inl ⟨.err, fun _ _ => (execute_succ_wasmExecute ..).trans (if_pos hv), rfl⟩
  -- `e`: the equation of the arm past the guards met so far. An `if` goes by `.trans`: `rw … at e` does not see a term
  -- that mentions the bound `tr`.
  have e := fun fuel tr => (execute_succ_wasmExecute cfg blk fuel ch s c m funds tr).trans (if_neg hv)
  cases hs : sendFunds ch s c funds with
  | ok ch1 => rw [hs] at e; exact .inr ⟨ch1, rfl, e⟩
  | _ => rw [hs] at e; exact .inl ⟨_, e, rfl⟩

theorem execute_wasmInstantiate_cases (cfg : Config E) (blk : Block) (ch : Chain E) (s : Addr) (admin : Option String)
    (codeId : Nat) (m : Val) (funds : Coins) (label : String) (salt : Option Val) :
    (∃ o, (∀ fuel tr, execute cfg blk (fuel + 1) ch s (.wasmInstantiate admin codeId m funds label salt) tr = (o, tr)) ∧
      o.isOk = false) ∨
    ∃ addr ch0 ch1, registerContract cfg ch codeId s admin label blk.height salt = .ok (addr, ch0) ∧
      sendFunds ch0 s addr funds = .ok ch1 ∧
      ∀ fuel tr, execute cfg blk (fuel + 1) ch s (.wasmInstantiate admin codeId m funds label salt) tr =
        mapResp (fun r => { r with data := some (encodeInstantiateResponse addr (r.data.getD [])) })
          (callThen cfg blk fuel ch1 addr (.instantiate ⟨s, funds⟩ m)
            { ty := "instantiate", attrs := [contractAttr addr, ⟨"code_id", toString codeId⟩] } tr) := by
  by_cases hl : label.isEmpty = true
  · exact .inl ⟨.err, fun _ _ => (execute_succ_wasmInstantiate ..).trans (if_pos hl), rfl⟩
  have e := fun fuel tr =>
    (execute_succ_wasmInstantiate cfg blk fuel ch s admin codeId m funds label salt tr).trans (if_neg hl)
  cases hr : registerContract cfg ch codeId s admin label blk.height salt with
  | ok p =>
    obtain ⟨addr, ch0⟩ := p
    rw [hr] at e
    dsimp only at e
    cases hs : sendFunds ch0 s addr funds with
    | ok ch1 => rw [hs] at e; exact .inr ⟨addr, ch0, ch1, rfl, hs, e⟩
    | _ => rw [hs] at e; exact .inl ⟨_, e, rfl⟩
  | _ => rw [hr] at e; exact .inl ⟨_, e, rfl⟩

theorem execute_wasmMigrate_cases (cfg : Config E) (blk : Block) (ch : Chain E) (s : Addr) (c : String) (n : Nat)
    (m : Val) :
    (∀ fuel tr, execute cfg blk (fuel + 1) ch s (.wasmMigrate c n m) tr = (.err, tr)) ∨
    ∃ cd, cfg.validAddr c = true ∧ codeKnown cfg n = true ∧ ch.contracts.get? c = some cd ∧ cd.admin = some s ∧
      ∀ fuel tr, execute cfg blk (fuel + 1) ch s (.wasmMigrate c n m) tr =
        mapResp (fun r => { r with data := r.data.map encodeExecuteResponse })
          (callThen cfg blk fuel { ch with contracts := ch.contracts.set c { cd with codeId := n } } c (.migrate m)
            { ty := "migrate", attrs := [contractAttr c, ⟨"code_id", toString n⟩] } tr) := by
  by_cases hv : (!cfg.validAddr c) = true
  · exact .inl fun _ _ => (execute_succ_wasmMigrate ..).trans (if_pos hv)
  have e := fun fuel tr => (execute_succ_wasmMigrate cfg blk fuel ch s c n m tr).trans (if_neg hv)
  by_cases hk : (!codeKnown cfg n) = true
  · exact .inl fun _ _ => (e _ _).trans (if_pos hk)
  replace e := fun fuel tr => (e fuel tr).trans (if_neg hk)
  cases hg : ch.contracts.get? c with
  | none => rw [hg] at e; exact .inl e
  | some cd =>
    rw [hg] at e
    by_cases ha : cd.admin ≠ some s
    · exact .inl fun _ _ => (e _ _).trans (if_pos ha)
    · exact .inr ⟨cd, by simpa using hv, by simpa using hk, rfl, Classical.not_not.mp ha,
        fun _ _ => (e _ _).trans (if_neg ha)⟩

theorem execute_wasmExecute_ok {cfg : Config E} {blk : Block} {fuel : Nat} {ch ch' : Chain E} {s : Addr}
    {contract : String} {m : Val} {funds : Coins} {r : AppResponse} {tr tr' : Trace}
    (h : execute cfg blk fuel ch s (.wasmExecute contract m funds) tr = (.ok (r, ch'), tr')) :
    ∃ r₀ : AppResponse, r = { r₀ with data := r₀.data.map encodeExecuteResponse } := by
  cases fuel with
  | zero => rw [execute_zero] at h; cases h
  | succ fuel =>
    rcases execute_wasmExecute_cases cfg blk ch s contract m funds with ⟨o, e, ho⟩ | ⟨ch₁, _, e⟩
    · rw [e] at h; cases h; cases ho
    · rw [e] at h
      obtain ⟨r₀, _, rfl⟩ := (mapResp_ok_iff _ _ _ _ _).1 h
      exact ⟨r₀, rfl⟩

theorem execute_wasmInstantiate_ok {cfg : Config E} {blk : Block} {fuel : Nat} {ch ch' : Chain E} {s : Addr}
    {admin : Option String} {codeId : Nat} {m : Val} {funds : Coins} {label : String} {salt : Option Val}
    {r : AppResponse} {tr tr' : Trace}
    (h : execute cfg blk fuel ch s (.wasmInstantiate admin codeId m funds label salt) tr = (.ok (r, ch'), tr')) :
    ∃ addr ch₀ d, registerContract cfg ch codeId s admin label blk.height salt = .ok (addr, ch₀) ∧
      r.data = some (encodeInstantiateResponse addr d) := by
  cases fuel with
  | zero => rw [execute_zero] at h; cases h
  | succ fuel =>
    rcases execute_wasmInstantiate_cases cfg blk ch s admin codeId m funds label salt with
      ⟨o, e, ho⟩ | ⟨addr, ch₀, ch₁, hr, _, e⟩
    · rw [e] at h; cases h; cases ho
    · rw [e] at h
      obtain ⟨r₀, _, rfl⟩ := (mapResp_ok_iff _ _ _ _ _).1 h
      exact ⟨addr, ch₀, _, hr, rfl⟩

theorem execute_wasmMigrate_rejected (cfg : Config E) (blk : Block) (fuel : Nat) (ch : Chain E) (sender : Addr)
    (c : String) (n : Nat) (m : Val) (tr : Trace)
    (h : ¬ (EngineB.adminOf ch c = some sender ∧ codeKnown cfg n = true)) :
    execute cfg blk (fuel + 1) ch sender (.wasmMigrate c n m) tr = (.err, tr) := by
  rcases execute_wasmMigrate_cases cfg blk ch sender c n m with e | ⟨cd, _, hk, hc, ha, _⟩
  · exact e fuel tr
  · exact absurd ⟨by rw [EngineB.adminOf, hc]; exact ha, hk⟩ h

/-- The statement of `C12.migrate_runs_new_code_on_same_storage`, hence the model's nested matches on the right and not
`mapResp f (callThen …)`; C17 reads off the last conjunct. -/
theorem execute_wasmMigrate_of_admin (cfg : Config E) (blk : Block) (fuel : Nat) (ch : Chain E)
    (sender : Addr) (c : String) (n : Nat) (m : Val) (tr : Trace) (cd : ContractData)
    (hv : cfg.validAddr c = true) (hk : codeKnown cfg n = true)
    (hc : ch.contracts.get? c = some cd) (ha : cd.admin = some sender) :
    let ch₁ : Chain E := { ch with contracts := ch.contracts.set c { cd with codeId := n } }
    ch₁.cstore = ch.cstore ∧ ch₁.contracts.get? c = some { cd with codeId := n } ∧
    execute cfg blk (fuel + 1) ch sender (.wasmMigrate c n m) tr =
      (match callContract cfg blk ch₁ c (.migrate m) tr with
       | (.ok (resp, ch₂), tr₁) =>
         (match processResponse cfg blk fuel ch₂ c
             (buildAppResponse c { ty := "migrate", attrs := [contractAttr c, ⟨"code_id", toString n⟩] } resp).1
             (buildAppResponse c { ty := "migrate", attrs := [contractAttr c, ⟨"code_id", toString n⟩] } resp).2 tr₁ with
          | (.ok (r, ch₃), tr₂) => (.ok ({ r with data := r.data.map encodeExecuteResponse }, ch₃), tr₂)
          | other => other)
       | (.err, tr₁) => (.err, tr₁)
       | (.panic, tr₁) => (.panic, tr₁)
       | (.outOfFuel, tr₁) => (.outOfFuel, tr₁)) := by
  refine ⟨rfl, AMap.get?_set_self _ _ _, ?_⟩
  rw [execute_succ_wasmMigrate, hv, hk, hc]
  exact (if_neg (not_not_intro ha)).trans (mapResp_callThen ..)

/-- C12 `auth_*`: authorisation is the contrapositive of rejection -/
theorem execute_not_ok_of_rejected {cfg : Config E} {blk : Block} {fuel : Nat} {ch ch' : Chain E} {sender : Addr} {m : Msg}
    {tr tr' : Trace} {r : AppResponse} (hrej : ∀ f, execute cfg blk (f + 1) ch sender m tr = (.err, tr))
    (h : execute cfg blk fuel ch sender m tr = (.ok (r, ch'), tr')) : False := by
  cases fuel with
  | zero => rw [execute_zero] at h; cases h
  | succ f => rw [hrej f] at h; cases h

/-- A change of state made for the sender `s` of a message outside any contract call: the recorded
invocations do not show it. -/
inductive Quiet (cfg : Config E) (blk : Block) (s : Addr) : Chain E → Chain E → Prop
  | bank {ch ch' m r} : bankExecute ch s m = .ok (r, ch') → Quiet cfg blk s ch ch'
  | ext {k ch p r ch'} : cfg.extExec k ch blk s p = .ok (r, ch') → Quiet cfg blk s ch ch'
  | admin {ch ch' c a r} : updateAdmin cfg ch s c a = .ok (r, ch') → Quiet cfg blk s ch ch'
  | funds {ch ch' c f} : sendFunds ch s c f = .ok ch' → Quiet cfg blk s ch ch'
  | register {ch ch' codeId admin label created salt addr} :
      registerContract cfg ch codeId s admin label created salt = .ok (addr, ch') → Quiet cfg blk s ch ch'
  -- less than the arm checks (`validAddr`, `codeKnown`): no instance of `StepInv` needs more
  | migrate {ch c cd} (n : Nat) : ch.contracts.get? c = some cd → cd.admin = some s →
      Quiet cfg blk s ch { ch with contracts := ch.contracts.set c { cd with codeId := n } }
  | trans {ch ch1 ch2} : Quiet cfg blk s ch ch1 → Quiet cfg blk s ch1 ch2 → Quiet cfg blk s ch ch2

theorem Quiet.cstore {cfg : Config E} {blk : Block} {s : Addr} {ch ch' : Chain E} (hf : ExtFrame cfg)
    (h : Quiet cfg blk s ch ch') : ch'.cstore = ch.cstore := by
  induction h with
  | bank h => obtain ⟨b, rfl, _⟩ := EngineB.bankExecute_ok h; rfl
  | ext h => exact (hf.1 _ _ _ _ _ _ _ h).1
  | admin h => obtain ⟨_, _, _, _, rfl⟩ := EngineB.updateAdmin_ok h; rfl
  | funds h => rcases EngineB.sendFunds_ok h with ⟨_, rfl⟩ | ⟨_, b, _, rfl⟩ <;> rfl
  | register h => exact (EngineB.registerContract_effect h).2.2.2.2
  | migrate => rfl
  | trans _ _ h1 h2 => exact h2.trans h1

/-- The witnesses (`o`; `f ch1 addr en custom`) are chosen before `fuel` and `tr`: this is what makes the arm of `execute` one
line in the induction over whole executions (`EngineInv.Runs_engine`) and in the one over the fuel (`fuel_le`). The last
conjunct, a sender shown to the callee is `s`, is what `Calls.call` asks for. -/
theorem execute_cases (cfg : Config E) (blk : Block) (ch : Chain E) (s : Addr) (m : Msg) :
    (∃ o, (∀ fuel tr, execute cfg blk (fuel + 1) ch s m tr = (o, tr)) ∧
        ∀ r ch', o = .ok (r, ch') → Quiet cfg blk s ch ch') ∨
    (∃ f ch1 addr en custom,
        (∀ fuel tr, execute cfg blk (fuel + 1) ch s m tr =
          mapResp f (callThen cfg blk fuel ch1 addr en custom tr)) ∧
        Quiet cfg blk s ch ch1 ∧ ∀ x, en.sender? = some x → x = s) := by
  have fail : ∀ {o : Outcome (AppResponse × Chain E)} {q : Prop},
      (∀ fuel tr, execute cfg blk (fuel + 1) ch s m tr = (o, tr)) → o.isOk = false →
      (∃ o, (∀ fuel tr, execute cfg blk (fuel + 1) ch s m tr = (o, tr)) ∧
        ∀ r ch', o = .ok (r, ch') → Quiet cfg blk s ch ch') ∨ q :=
    fun h ho => .inl ⟨_, h, fun r ch' e => by rw [e] at ho; cases ho⟩
  cases m with
  | bankSend to a => exact Or.inl ⟨_, fun _ _ => execute_succ_bankSend .., fun _ _ h => .bank h⟩
  | bankBurn a => exact Or.inl ⟨_, fun _ _ => execute_succ_bankBurn .., fun _ _ h => .bank h⟩
  | ext k p => exact Or.inl ⟨_, fun _ _ => execute_succ_ext .., fun _ _ h => .ext h⟩
  | wasmUpdateAdmin c a => exact Or.inl ⟨_, fun _ _ => execute_succ_wasmUpdateAdmin .., fun _ _ h => .admin h⟩
  | wasmClearAdmin c => exact Or.inl ⟨_, fun _ _ => execute_succ_wasmClearAdmin .., fun _ _ h => .admin h⟩
  | wasmExecute c msg funds =>
    rcases execute_wasmExecute_cases cfg blk ch s c msg funds with ⟨o, e, ho⟩ | ⟨ch1, hs, e⟩
    · exact fail e ho
    · exact Or.inr ⟨_, ch1, c, .execute ⟨s, funds⟩ msg, _, e, .funds hs, fun x hx => (Option.some.inj hx).symm⟩
  | wasmInstantiate admin codeId msg funds label salt =>
    rcases execute_wasmInstantiate_cases cfg blk ch s admin codeId msg funds label salt with
      ⟨o, e, ho⟩ | ⟨addr, ch0, ch1, hr, hs, e⟩
    · exact fail e ho
    · exact Or.inr ⟨_, ch1, addr, .instantiate ⟨s, funds⟩ msg, _, e,
        .trans (.register hr) (.funds hs), fun x hx => (Option.some.inj hx).symm⟩
  | wasmMigrate c newCodeId msg =>
    rcases execute_wasmMigrate_cases cfg blk ch s c newCodeId msg with e | ⟨cd, _, _, hc, ha, e⟩
    · exact fail e rfl
    · exact Or.inr ⟨_, _, c, .migrate msg, _, e, .migrate newCodeId hc ha, fun _ hx => by cases hx⟩

end CwMt.Engine
