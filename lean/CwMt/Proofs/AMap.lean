import CwMt.Model.Bank
/-
  CwMt.Proofs.AMap — the string-keyed association list `AMap` (`CwMt/Model/Bank.lean`) that holds the
  bank ledger, the contract registry and the map of contract stores: lookup after insertion
  (no sortedness needed), and that insertion keeps the keys sorted. `AMap.get?` / `AMap.set` are
  `Store.get` / `Store.set` over another key type; the lemmas here are a subset of those of
  `CwMt/Proofs/Store.lean`, proved the same way.
-/
namespace CwMt.AMap
variable {α : Type}

theorem get?_cons (k' k : String) (v : α) (m : AMap α) :
    get? ((k', v) :: m) k = if k' = k then some v else get? m k := rfl

theorem mem_of_get?_eq_some {m : AMap α} {k : String} {v : α} (h : get? m k = some v) : (k, v) ∈ m := by
  fun_induction get? m k with
  | case1 => cases h
  | case2 => cases h; exact List.mem_cons_self
  | case3 _ _ _ _ _ ih => exact List.mem_cons_of_mem _ (ih h)

theorem get?_eq_some_of_mem {m : AMap α} (hn : m.Pairwise fun a b => a.1 ≠ b.1) {k : String} {v : α}
    (h : (k, v) ∈ m) : get? m k = some v := by
  induction m with
  | nil => cases h
  | cons p m ih =>
    rw [List.pairwise_cons] at hn
    rw [get?_cons]
    rcases List.mem_cons.1 h with rfl | h
    · exact if_pos rfl
    · rw [if_neg (hn.1 _ h), ih hn.2 h]

theorem get?_eq_some_iff {m : AMap α} (hn : m.Pairwise fun a b => a.1 ≠ b.1) {k : String} {v : α} :
    get? m k = some v ↔ (k, v) ∈ m := ⟨mem_of_get?_eq_some, get?_eq_some_of_mem hn⟩

theorem get?_eq_none {m : AMap α} {k : String} (h : ∀ p ∈ m, p.1 ≠ k) : get? m k = none := by
  induction m with
  | nil => rfl
  | cons p m ih =>
    rw [get?_cons, if_neg (h p List.mem_cons_self)]
    exact ih fun q hq => h q (List.mem_cons_of_mem _ hq)

theorem set_cons_cases (k' : String) (v' : α) (m : AMap α) (k : String) (v : α) :
    (k < k' ∧ set ((k', v') :: m) k v = (k, v) :: (k', v') :: m) ∨
    (k = k' ∧ set ((k', v') :: m) k v = (k, v) :: m) ∨
    (k' < k ∧ set ((k', v') :: m) k v = (k', v') :: set m k v) := by
  rw [set]
  by_cases h1 : k < k'
  · exact Or.inl ⟨h1, if_pos h1⟩
  · rw [if_neg h1]
    by_cases h2 : k = k'
    · exact Or.inr (Or.inl ⟨h2, if_pos h2⟩)
    · exact Or.inr (Or.inr ⟨Std.lt_of_le_of_ne (String.not_lt.mp h1) (Ne.symm h2), if_neg h2⟩)

theorem get?_set_self (m : AMap α) (k : String) (v : α) : get? (set m k v) k = some v := by
  fun_induction set m k v with
  | case1 | case2 | case3 => exact if_pos rfl
  | case4 _ _ _ _ _ _ h ih => rw [get?_cons, if_neg (Ne.symm h), ih]

theorem get?_set_ne (m : AMap α) {k k2 : String} (v : α) (h : k2 ≠ k) : get? (set m k v) k2 = get? m k2 := by
  fun_induction set m k v with
  | case1 | case2 => exact if_neg h.symm
  | case3 => rw [get?_cons, get?_cons, if_neg h.symm, if_neg h.symm]
  | case4 _ _ _ _ _ _ _ ih => rw [get?_cons, get?_cons, ih h]

theorem get?_set (m : AMap α) (k k2 : String) (v : α) :
    get? (set m k v) k2 = if k2 = k then some v else get? m k2 := by
  split
  · next e => exact e ▸ get?_set_self m k v
  · next e => exact get?_set_ne m v e

theorem eq_or_mem_of_mem_set {m : AMap α} {k : String} {v : α} {p : String × α} (h : p ∈ set m k v) :
    p = (k, v) ∨ p ∈ m := by
  fun_induction set m k v with
  | case1 => exact Or.inl (List.mem_singleton.1 h)
  | case2 => exact List.mem_cons.1 h
  | case3 => exact (List.mem_cons.1 h).imp_right (List.mem_cons_of_mem _)
  | case4 _ _ _ _ _ _ _ ih =>
    rcases List.mem_cons.1 h with h | h
    · exact Or.inr (h ▸ List.mem_cons_self)
    · exact (ih h).imp_right (List.mem_cons_of_mem _)

theorem sorted_set {m : AMap α} (hs : m.Pairwise (fun p q => p.1 < q.1)) (k : String) (v : α) :
    (set m k v).Pairwise (fun p q => p.1 < q.1) := by
  fun_induction set m k v with
  | case1 => exact List.pairwise_singleton _ _
  | case2 k' v' m k v h1 =>
    have hk := (List.pairwise_cons.1 hs).1
    exact List.pairwise_cons.2 ⟨List.forall_mem_cons.2 ⟨h1, fun p hp => String.lt_trans h1 (hk p hp)⟩, hs⟩
  | case3 => exact List.pairwise_cons.2 (List.pairwise_cons.1 hs)
  | case4 k' v' m k v h1 h2 ih =>
    have h := List.pairwise_cons.1 hs
    refine List.pairwise_cons.2 ⟨fun p hp => ?_, ih h.2⟩
    rcases eq_or_mem_of_mem_set hp with rfl | hp
    · exact Std.lt_of_le_of_ne (String.not_lt.mp h1) (Ne.symm h2)
    · exact h.1 p hp

end CwMt.AMap
