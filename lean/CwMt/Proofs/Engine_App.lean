import CwMt.Model.Engine
/-
  CwMt.Proofs.Engine_App — the `App` entry points: `atomically` keeps the old state unless the run ended `ok`
  (`executeMulti`, `sudo`, `wasmSudo` are `atomically …` by definition, `App.execute` by `app_execute_eq`), and the message
  list of `execute_multi` runs as consecutive batches (`runMsgs_append`). Nothing here needs an induction over the engine.
-/
namespace CwMt.Engine
open CwMt
variable {E : Type}

theorem atomically_not_ok {α : Type} {ch : Chain E} {x : Outcome (α × Chain E) × Trace}
    {r : Outcome α} {ch' : Chain E} {tr : Trace}
    (h : App.atomically ch x = (r, ch', tr)) (hr : r.isOk = false) : ch' = ch := by
  obtain ⟨o, t⟩ := x
  cases o with
  | ok p => cases h; cases hr
  | _ => cases h; rfl

theorem atomically_ok {α : Type} {ch : Chain E} {x : Outcome (α × Chain E) × Trace}
    {a : α} {ch' : Chain E} {tr : Trace}
    (h : App.atomically ch x = (.ok a, ch', tr)) : x = (.ok (a, ch'), tr) := by
  obtain ⟨o, t⟩ := x
  cases o <;> cases h
  rfl

theorem runMsgs_cons (cfg : Config E) (blk : Block) (fuel : Nat) (ch : Chain E) (sender : Addr)
    (m : Msg) (ms : List Msg) (tr : Trace) :
    App.runMsgs cfg blk fuel ch sender (m :: ms) tr =
      (match execute cfg blk fuel ch sender m tr with
      | (.ok (r, ch1), tr1) =>
        (match App.runMsgs cfg blk fuel ch1 sender ms tr1 with
        | (.ok (rs, ch2), tr2) => (.ok (r :: rs, ch2), tr2)
        | (.err, tr2) => (.err, tr2)
        | (.panic, tr2) => (.panic, tr2)
        | (.outOfFuel, tr2) => (.outOfFuel, tr2))
      | (.err, tr1) => (.err, tr1)
      | (.panic, tr1) => (.panic, tr1)
      | (.outOfFuel, tr1) => (.outOfFuel, tr1)) := by rfl

theorem runMsgs_cons_ok {cfg : Config E} {blk : Block} {fuel : Nat} {ch ch' : Chain E} {sender : Addr} {m : Msg}
    {ms : List Msg} {tr tr' : Trace} {rs : List AppResponse}
    (h : App.runMsgs cfg blk fuel ch sender (m :: ms) tr = (.ok (rs, ch'), tr')) :
    ∃ r rs' ch₁ tr₁, execute cfg blk fuel ch sender m tr = (.ok (r, ch₁), tr₁) ∧
      App.runMsgs cfg blk fuel ch₁ sender ms tr₁ = (.ok (rs', ch'), tr') ∧ rs = r :: rs' := by
  rw [runMsgs_cons] at h
  rcases hx : execute cfg blk fuel ch sender m tr with ⟨o, t⟩
  rw [hx] at h
  cases o with
  | ok p =>
    dsimp only at h
    rcases hy : App.runMsgs cfg blk fuel p.2 sender ms t with ⟨o2, t2⟩
    rw [hy] at h
    cases o2 with
    | ok p2 => cases h; exact ⟨p.1, p2.1, p.2, t, rfl, hy, rfl⟩
    | _ => cases h
  | _ => cases h

theorem runMsgs_append (cfg : Config E) (blk : Block) (fuel : Nat) (ch : Chain E) (sender : Addr)
    (ms₁ ms₂ : List Msg) (tr : Trace) :
    App.runMsgs cfg blk fuel ch sender (ms₁ ++ ms₂) tr =
      (match App.runMsgs cfg blk fuel ch sender ms₁ tr with
       | (.ok (rs₁, ch₁), tr₁) =>
         (match App.runMsgs cfg blk fuel ch₁ sender ms₂ tr₁ with
          | (.ok (rs₂, ch₂), tr₂) => (.ok (rs₁ ++ rs₂, ch₂), tr₂)
          | (.err, tr₂) => (.err, tr₂)
          | (.panic, tr₂) => (.panic, tr₂)
          | (.outOfFuel, tr₂) => (.outOfFuel, tr₂))
       | (.err, tr₁) => (.err, tr₁)
       | (.panic, tr₁) => (.panic, tr₁)
       | (.outOfFuel, tr₁) => (.outOfFuel, tr₁)) := by
  induction ms₁ generalizing ch tr with
  | nil =>
    rw [List.nil_append, show App.runMsgs cfg blk fuel ch sender [] tr = (.ok ([], ch), tr) from rfl]
    dsimp only
    rcases App.runMsgs cfg blk fuel ch sender ms₂ tr with ⟨o, t⟩
    cases o <;> rfl
  | cons m ms ih =>
    -- `rewrite`: the `rfl` that `rw` tries afterwards is slow on these nested matches
    rewrite [List.cons_append, runMsgs_cons, runMsgs_cons]
    rcases execute cfg blk fuel ch sender m tr with ⟨o, t⟩
    cases o with
    | ok p =>
      dsimp only
      rewrite [ih]
      rcases App.runMsgs cfg blk fuel p.2 sender ms t with ⟨o2, t2⟩
      cases o2 with
      | ok p2 =>
        dsimp only
        rcases App.runMsgs cfg blk fuel p2.2 sender ms₂ t2 with ⟨o3, t3⟩
        cases o3 <;> rfl
      | _ => rfl
    | _ => rfl

/-- No `panic` arm on the right: the `.ok _ => .panic` arm of `App.execute` (`pop().unwrap()` in app.rs) is unreachable,
one message giving one response. -/
theorem app_execute_eq (cfg : Config E) (blk : Block) (fuel : Nat) (ch : Chain E) (sender : Addr) (m : Msg) :
    App.execute cfg blk fuel ch sender m = App.atomically ch (execute cfg blk fuel ch sender m []) := by
  unfold App.execute App.executeMulti
  rw [runMsgs_cons]
  rcases execute cfg blk fuel ch sender m [] with ⟨o, t⟩
  cases o <;> rfl

theorem app_execute_not_ok {cfg : Config E} {blk : Block} {fuel : Nat} {ch : Chain E} {sender : Addr}
    {m : Msg} {r : Outcome AppResponse} {ch' : Chain E} {tr : Trace}
    (h : App.execute cfg blk fuel ch sender m = (r, ch', tr)) (hr : r.isOk = false) : ch' = ch :=
  atomically_not_ok (app_execute_eq cfg blk fuel ch sender m ▸ h) hr

theorem app_execute_ok {cfg : Config E} {blk : Block} {fuel : Nat} {ch : Chain E} {s : Addr} {m : Msg}
    {r : AppResponse} {ch' : Chain E} {tr : Trace}
    (h : App.execute cfg blk fuel ch s m = (.ok r, ch', tr)) :
    execute cfg blk fuel ch s m [] = (.ok (r, ch'), tr) :=
  atomically_ok (app_execute_eq .. ▸ h)

end CwMt.Engine
