import CwMt.Proofs.Bank
/-
  CwMt.Proofs.StakingBank — the facts about the bank model (`CwMt.Bank`) that the staking proofs use: the effect of a
  single-coin `send` / `mint` on `queryBalance`, and when a send succeeds. They are the single-coin instances of
  `Bank.queryBalance_mint` / `queryBalance_burn`.
  `BankFacts.WF` says that every stored balance shows, per denom, the sum of its entries (true for every balance
  written by `set_balance`, which normalises; preserved by `send` and `mint`). It is weaker than `Bank.NormInv`.
-/
namespace CwMt
namespace Staking
namespace BankFacts
open CwMt.Bank

/-- `Bank.totalOf` by structural recursion (`sumOf_eq_totalOf`); only `WF` is stated with it -/
def sumOf : Coins → String → Nat
  | [], _ => 0
  | c :: cs, d => (if c.denom = d then c.amount else 0) + sumOf cs d

theorem amountOf_nil (d : String) : amountOf [] d = 0 := rfl

theorem sumOf_eq_totalOf (cs : Coins) (d : String) : sumOf cs d = totalOf cs d := by
  induction cs with
  | nil => rfl
  | cons c cs ih => rw [sumOf, totalOf_cons, ih]

def WF (st : State) : Prop := ∀ a d, amountOf (balance st a) d = sumOf (balance st a) d

theorem WF.queryBalance_eq_totalOf {st : State} (h : WF st) (a : Addr) (d : String) :
    queryBalance st a d = totalOf (balance st a) d := (h a d).trans (sumOf_eq_totalOf _ d)

theorem WF_setBalance {st : State} (h : WF st) (a : Addr) (cs : Coins) : WF (setBalance st a cs) := by
  intro x d
  rw [sumOf_eq_totalOf, balance_setBalance]
  split
  · exact (totalOf_eq_amountOf (norm_normalize cs) d).symm
  · exact h.queryBalance_eq_totalOf x d

theorem WF_nil : WF [] := fun _ _ => rfl

theorem WF_mint {st st' : State} {to : Addr} {amt : Coins} (hwf : WF st) (h : mint st to amt = some st') : WF st' := by
  obtain ⟨cs, rfl, _⟩ := mint_eq_some h
  exact WF_setBalance hwf to cs

theorem WF_burn {st st' : State} {frm : Addr} {amt : Coins} (hwf : WF st) (h : burn st frm amt = some st') : WF st' := by
  obtain ⟨cs, rfl, _⟩ := burn_eq_some h
  exact WF_setBalance hwf frm cs

theorem WF_send {st st' : State} {frm to : Addr} {amt : Coins} (hwf : WF st)
    (h : send st frm to amt = some st') : WF st' := by
  obtain ⟨s1, hb, hm⟩ := Option.bind_eq_some_iff.mp h
  exact WF_mint (WF_burn hwf hb) hm

theorem mint_single_zero (st : State) (to : Addr) (den : String) : mint st to [⟨den, 0⟩] = none :=
  Option.map_eq_none_iff.mpr (normalizeAmount_eq_none_iff.mpr fun _ hc => List.mem_singleton.mp hc ▸ rfl)

/-- the summand of `queryBalance_mint` / `queryBalance_burn`, for a single coin -/
theorem totalOf_singleton_at (to a : Addr) (den d : String) (n : Nat) :
    (if to = a then totalOf [⟨den, n⟩] d else 0) = if a = to ∧ d = den then n else 0 := by
  rw [totalOf_cons]
  by_cases h1 : to = a <;> by_cases h2 : den = d <;> simp [h1, h2, eq_comm]

theorem queryBalance_mint_single {st st' : State} {to : Addr} {den : String} {n : Nat} (hwf : WF st)
    (h : mint st to [⟨den, n⟩] = some st') (a : Addr) (d : String) :
    queryBalance st' a d = queryBalance st a d + (if a = to ∧ d = den then n else 0) := by
  rw [queryBalance_mint (hwf.queryBalance_eq_totalOf to) h, totalOf_singleton_at]

theorem queryBalance_send_single {st st' : State} {frm to : Addr} {den : String} {n : Nat} (hwf : WF st)
    (h : send st frm to [⟨den, n⟩] = some st') (a : Addr) (d : String) :
    queryBalance st' a d + (if a = frm ∧ d = den then n else 0) =
      queryBalance st a d + (if a = to ∧ d = den then n else 0) := by
  obtain ⟨s1, hb, hm⟩ := Option.bind_eq_some_iff.mp h
  have h1 := queryBalance_burn (hwf.queryBalance_eq_totalOf frm) hb a d
  have h2 := queryBalance_mint ((WF_burn hwf hb).queryBalance_eq_totalOf to) hm a d
  rw [totalOf_singleton_at] at h1 h2
  rw [h2, ← h1]
  exact Nat.add_right_comm _ _ _

/-- no hypothesis on the ledger: `subCoin` looks at the first entry of the denom only, as the query does -/
theorem send_single_succeeds (st : State) (frm to : Addr) (den : String) {n : Nat} (hn : n ≠ 0)
    (hle : n ≤ queryBalance st frm den) : ∃ st', send st frm to [⟨den, n⟩] = some st' := by
  have hc : (subCoin (balance st frm) ⟨den, n⟩).isSome := (subCoin_isSome_iff (c := ⟨den, n⟩) hn).mpr hle
  obtain ⟨b', hb'⟩ := Option.isSome_iff_exists.mp hc
  apply Option.isSome_iff_exists.mp
  rw [send_isSome]
  simp [burn, normalizeAmount, hn, subCoins, hb']

end BankFacts
end Staking
end CwMt
