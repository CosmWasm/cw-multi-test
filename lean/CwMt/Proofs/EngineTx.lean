import CwMt.Proofs.Engine_App
import CwMt.Proofs.EngineTx_Basic
/- The engine with in-place writes (CwMt/Model/EngineTx.lean) refines the value-semantics engine (CwMt/Model/Engine.lean):
`ResI.forget`, which drops the storage a failure leaves behind, maps every function of the one to the same function of
the other (`refAt`, by induction on the fuel; then the `App` entry points). What is forgotten exists (`dirt_is_real`),
and the outermost `transactionalI` alone keeps it from being persisted (`imperative_atomic`). -/
namespace CwMt.EngineTx
open CwMt CwMt.Engine
variable {E : Type}

structure Refines (cfg : Config E) (d : Dirt E) (blk : Block) (fuel : Nat) : Prop where
  execute : ∀ ch s m tr, (executeI cfg d blk fuel ch s m tr).forget = execute cfg blk fuel ch s m tr
  processResponse : ∀ ch c r l tr,
    (processResponseI cfg d blk fuel ch c r l tr).forget = processResponse cfg blk fuel ch c r l tr
  executeSubmsg : ∀ ch c sm tr,
    (executeSubmsgI cfg d blk fuel ch c sm tr).forget = executeSubmsg cfg blk fuel ch c sm tr
  reply : ∀ ch c rp tr, (replyI cfg d blk fuel ch c rp tr).forget = reply cfg blk fuel ch c rp tr

/-- No equation of `executeI` is stated: each arm is checked by `exact` against the model text, `mapRespI f` unifying
with the arm's inline match. -/
theorem forget_executeI_succ (cfg : Config E) (d : Dirt E) (blk : Block) (fuel : Nat)
    (hP : ∀ ch c r l tr, (processResponseI cfg d blk fuel ch c r l tr).forget
        = processResponse cfg blk fuel ch c r l tr)
    (ch : Chain E) (s : Addr) (m : Msg) (tr : Trace) :
    (executeI cfg d blk (fuel + 1) ch s m tr).forget = execute cfg blk (fuel + 1) ch s m tr := by
  have tail := fun f => forget_callThen cfg d blk fuel hP (mapRespI f) (mapResp f) (forget_mapRespI f)
  cases m with
  | bankSend to a => exact forget_moduleI _ _ _ _ _ _
  | bankBurn a => exact forget_moduleI _ _ _ _ _ _
  | ext k p => exact forget_moduleI _ _ _ _ _ _
  | wasmUpdateAdmin c a => exact forget_adminArm _ _ _
  | wasmClearAdmin c => exact forget_adminArm _ _ _
  | wasmExecute c msg funds =>
    exact forget_guard rfl (forget_afterSend _ _ _ _ _ _ _ _ fun ch1 => tail _ _ _ _ _ _)
  | wasmInstantiate admin codeId msg funds label salt =>
    refine forget_guard rfl ?_
    cases registerContract cfg ch codeId s admin label blk.height salt with
    | ok p => exact forget_afterSend _ _ _ _ _ _ _ _ fun ch1 => tail _ _ _ _ _ _
    | _ => rfl
  | wasmMigrate c newCodeId msg =>
    refine forget_guard rfl (forget_guard rfl ?_)
    cases ch.contracts.get? c with
    | none => rfl
    | some cd => exact forget_guard rfl (tail _ _ _ _ _ _)

theorem refAt (cfg : Config E) (d : Dirt E) (blk : Block) (fuel : Nat) : Refines cfg d blk fuel := by
  induction fuel with
  | zero => exact ⟨fun _ _ _ _ => rfl, fun _ _ _ _ _ => rfl, fun _ _ _ _ => rfl, fun _ _ _ _ => rfl⟩
  | succ fuel ih =>
    -- the value side is rewritten right to left with the hypothesis of the function called first: both sides then
    -- scrutinise the same imperative result
    refine ⟨forget_executeI_succ cfg d blk fuel ih.processResponse, ?_, ?_, ?_⟩
    · intro ch c r l tr
      cases l with
      | nil => rfl
      | cons sm rest =>
        rw [processResponse_succ_cons, processResponseI_succ_cons, ← ih.executeSubmsg ch c sm tr]
        rcases executeSubmsgI cfg d blk fuel ch c sm tr with ⟨o, c1, t⟩
        cases o with
        | ok sr => exact ih.processResponse _ _ _ _ _
        | _ => rfl
    · intro ch c sm tr
      rw [executeSubmsgI_succ, executeSubmsg_succ, ← ih.execute ch c sm.msg tr]
      rcases executeI cfg d blk fuel ch c sm.msg tr with ⟨o, c1, t⟩
      cases o with
      | ok r =>
        refine forget_guard ?_ rfl
        rw [← ih.reply c1 c _ t]
        rcases replyI cfg d blk fuel c1 c ⟨sm.id, sm.payload, .ok r.events r.data⟩ t with ⟨o2, c2, t2⟩
        cases o2 <;> rfl
      | err => exact forget_guard (ih.reply ch c _ t) rfl
      | _ => rfl
    · intro ch c rp tr
      exact forget_callThen cfg d blk fuel ih.processResponse id id (fun _ => rfl) _ _ _ _ _

theorem forget_runMsgsI (cfg : Config E) (d : Dirt E) (blk : Block) (fuel : Nat) (ch : Chain E)
    (sender : Addr) (msgs : List Msg) (tr : Trace) :
    (AppI.runMsgsI cfg d blk fuel ch sender msgs tr).forget = App.runMsgs cfg blk fuel ch sender msgs tr := by
  induction msgs generalizing ch tr with
  | nil => rfl
  | cons m ms ih =>
    rw [AppI.runMsgsI, App.runMsgs, ← (refAt cfg d blk fuel).execute ch sender m tr]
    rcases executeI cfg d blk fuel ch sender m tr with ⟨o, c1, t⟩
    cases o with
    | ok r =>
      simp only [forget_ok]
      rw [← ih c1 t]
      rcases AppI.runMsgsI cfg d blk fuel c1 sender ms t with ⟨o2, c2, t2⟩
      cases o2 <;> rfl
    | _ => rfl

theorem forget_wasmSudoI (cfg : Config E) (d : Dirt E) (blk : Block) (fuel : Nat) (ch : Chain E)
    (c : Addr) (m : Val) (tr : Trace) :
    (wasmSudoI cfg d blk fuel ch c m tr).forget = CwMt.wasmSudo cfg blk fuel ch c m tr := by
  unfold wasmSudoI CwMt.wasmSudo
  exact forget_callThen cfg d blk fuel (refAt cfg d blk fuel).processResponse id id (fun _ => rfl) _ _ _ _ _

theorem forget_routerSudoI (cfg : Config E) (d : Dirt E) (blk : Block) (fuel : Nat) (ch : Chain E)
    (m : SudoMsg) (tr : Trace) :
    (routerSudoI cfg d blk fuel ch m tr).forget = routerSudo cfg blk fuel ch m tr := by
  cases m with
  | bankMint to amount =>
    refine forget_guard rfl ?_
    cases Bank.mint ch.bank to amount <;> rfl
  | wasm c msg => exact forget_wasmSudoI cfg d blk fuel ch c msg tr
  | ext payload =>
    simp only [routerSudoI, routerSudo]
    cases cfg.extSudo ch blk payload with
    | ok p => rfl
    | _ => rfl

/-- it is the outermost `transactional` alone that makes a failed `execute_multi` persist nothing -/
theorem imperative_atomic (cfg : Config E) (d : Dirt E) (blk : Block) (fuel : Nat) (ch : Chain E)
    (sender : Addr) (msgs : List Msg) (r : Outcome (List AppResponse)) (ch' : Chain E) (tr : Trace)
    (h : AppI.executeMulti cfg d blk fuel ch sender msgs = (r, ch', tr)) (hr : r.isOk = false) : ch' = ch :=
  Engine.atomically_not_ok
    ((transactionalI_eq_atomically ch (AppI.runMsgsI cfg d blk fuel ch sender msgs [])).symm.trans h) hr

/-- alice sends her one coin to bob, then tries to clear the admin of a contract that does not exist:
the loop returns `err` with the transfer still in the storage it was writing to -/
theorem dirt_is_real :
    ∃ (cfg : Config Unit) (d : Dirt Unit) (blk : Block) (fuel : Nat) (ch : Chain Unit) (sender : Addr)
      (msgs : List Msg) (ch' : Chain Unit) (tr : Trace),
      AppI.runMsgsI cfg d blk fuel ch sender msgs [] = (.err, ch', tr) ∧ ch'.bank ≠ ch.bank :=
  ⟨{ codes := [], codeBase := [], validAddr := fun _ => true, addrClassic := fun _ _ => .err,
      addrSalted := fun _ _ _ => .err, extExec := fun _ _ _ _ _ => .err, extSudo := fun _ _ _ => .err },
    ⟨fun _ _ _ s => s, fun ch _ _ => ch, fun ch _ => ch⟩, ⟨0, 0, ""⟩, 1,
    { bank := [("alice", [⟨"x", 1⟩])], ext := () }, "alice",
    [.bankSend "bob" [⟨"x", 1⟩], .wasmClearAdmin "nobody"],
    { bank := [("alice", []), ("bob", [⟨"x", 1⟩])], ext := () }, [], rfl, nofun⟩

end CwMt.EngineTx
