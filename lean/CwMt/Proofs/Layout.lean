import CwMt.Proofs.Prefix
/-
  CwMt.Proofs.Layout — the raw key layout of the chain store, and that a contract's key space is disjoint from every
  other module's.

  Layout (/repo/src/wasm.rs:30-33,142,156,169; bank.rs; staking.rs:111-113):
    contract storage of `a`   under  toLPNested ["wasm", "contract_data/" ++ a]
    contract registry         under  toLPNested ["wasm", "contracts"]        (cw-storage-plus `Map::new("contracts")`
                                                                              inside `prefixed(storage, b"wasm")`)
    bank / staking / distribution under toLPNested ["bank"] / ["staking"] / ["distribution"]

  `String.toUTF8 … |>.toList` computes what one expects (core has no lemmas about `ByteArray.toList`, which is
  defined by well-founded recursion and does not reduce), so the statements can be about the string literals
  themselves rather than about byte lists written out by hand.
-/
namespace CwMt.Layout
open CwMt

theorem toList_loop_eq (bs : ByteArray) (i : Nat) (r : List UInt8) :
    ByteArray.toList.loop bs i r = r.reverse ++ bs.data.toList.drop i := by
  fun_induction ByteArray.toList.loop bs i r with
  | case1 i r h ih =>
    rw [ih]
    have hi : i < bs.data.toList.length := by rw [Array.length_toList]; exact h
    rw [List.drop_eq_getElem_cons hi]
    have hg : bs.get! i = bs.data.toList[i] := by
      show bs.data[i]! = _
      rw [getElem!_pos bs.data i (by rw [← Array.length_toList]; exact hi)]
      simp
    rw [hg]
    simp
  | case2 i r h =>
    have : bs.data.toList.length ≤ i := by rw [Array.length_toList]; exact Nat.le_of_not_lt h
    simp [List.drop_eq_nil_of_le this]

theorem byteArray_toList_eq (bs : ByteArray) : bs.toList = bs.data.toList := by
  simp [ByteArray.toList, toList_loop_eq]

theorem utf8_append (s t : String) :
    (s ++ t).toUTF8.toList = s.toUTF8.toList ++ t.toUTF8.toList := by
  simp only [String.toUTF8, String.toByteArray_append, byteArray_toList_eq, ByteArray.toList_data_append]

/-- a string literal is `String.ofList` of its characters by definition, so `rw [utf8_ofList]` applies to it and leaves
the characters to encode (`decide`); through `utf8_eq` the literal's bytes would first be decoded back into characters -/
theorem utf8_ofList (l : List Char) :
    (String.ofList l).toUTF8.toList = l.flatMap String.utf8EncodeChar := by
  simp only [String.toUTF8, String.toByteArray_ofList, byteArray_toList_eq, List.utf8Encode,
    List.toList_data_toByteArray]

theorem utf8_eq (s : String) : s.toUTF8.toList = s.toList.flatMap String.utf8EncodeChar := by
  rw [← utf8_ofList, String.ofList_toList]

theorem utf8_length (s : String) : s.toUTF8.toList.length = s.utf8ByteSize := by
  rw [byteArray_toList_eq]
  simp [String.toUTF8]

theorem utf8_inj {a b : String} (h : a.toUTF8.toList = b.toUTF8.toList) : a = b := by
  rw [byteArray_toList_eq, byteArray_toList_eq] at h
  exact String.toByteArray_inj.mp (ByteArray.ext (Array.ext' h))

theorem utf8_ne {a b : String} (h : a ≠ b) : a.toUTF8.toList ≠ b.toUTF8.toList :=
  fun e => h (utf8_inj e)

theorem contract_namespace_bytes (a : String) : ("contract_data/" ++ a).toUTF8.toList =
    [99, 111, 110, 116, 114, 97, 99, 116, 95, 100, 97, 116, 97, 47] ++ a.toUTF8.toList := by
  rw [utf8_append]
  exact congrArg (· ++ _) (by rw [utf8_ofList]; decide +kernel)

/-- no contract's storage namespace is the registry's: the ninth character is `_` in one and `s` in the other -/
theorem contract_namespace_ne_contracts (a : String) : "contract_data/" ++ a ≠ "contracts" := by
  intro h
  have := congrArg (·.toList[8]?) h
  rw [String.toList_append, String.toList_ofList, String.toList_ofList, List.getElem?_append_left (by decide)] at this
  exact absurd this (by decide)

/-! ### disjointness

A raw key determines the path of length-prefixed segments it lies under (`Prefix.toLPNested_prefix_comparable`), so two paths that
differ in some segment have no key in common. -/

theorem two_segment_disjoint {top sub sub' : List UInt8} {pc pr : Key} (hne : sub ≠ sub')
    (hc : toLPNested [top, sub] = .ok pc) (hr : toLPNested [top, sub'] = .ok pr) : Flat.Disjoint pc pr := by
  intro k hkc hkr
  rcases Prefix.toLPNested_prefix_comparable hc hr hkc hkr with h | h
  · exact hne (List.cons_prefix_cons.mp (List.cons_prefix_cons.mp h).2).1
  · exact hne (List.cons_prefix_cons.mp (List.cons_prefix_cons.mp h).2).1.symm

theorem two_segment_disjoint_from_module {top sub other : List UInt8} {pc pm : Key} (hne : top ≠ other)
    (hc : toLPNested [top, sub] = .ok pc) (hm : toLPNested [other] = .ok pm) : Flat.Disjoint pc pm := by
  intro k hkc hkm
  rcases Prefix.toLPNested_prefix_comparable hc hm hkc hkm with h | h
  · have := h.length_le
    simp at this
  · exact hne (List.cons_prefix_cons.mp h).1.symm

/-- the namespaces of the bank, of staking, of distribution, of the registry and of every other contract are disjoint from
contract `a`'s, so whatever holds of every namespace disjoint from it holds of these -/
theorem contract_frame {a : String} {pc : Key}
    (hc : toLPNested [("wasm".toUTF8.toList), ("contract_data/" ++ a).toUTF8.toList] = .ok pc)
    {P : Key → Prop} (h : ∀ q, Flat.Disjoint pc q → P q) :
    (∀ pm, toLPNested [("bank".toUTF8.toList)] = .ok pm → P pm) ∧
    (∀ pm, toLPNested [("staking".toUTF8.toList)] = .ok pm → P pm) ∧
    (∀ pm, toLPNested [("distribution".toUTF8.toList)] = .ok pm → P pm) ∧
    (∀ pr, toLPNested [("wasm".toUTF8.toList), ("contracts".toUTF8.toList)] = .ok pr → P pr) ∧
    (∀ (b : String) (pb : Key),
      ("contract_data/" ++ a).toUTF8.toList ≠ ("contract_data/" ++ b).toUTF8.toList →
      toLPNested [("wasm".toUTF8.toList), ("contract_data/" ++ b).toUTF8.toList] = .ok pb → P pb) :=
  ⟨fun pm hm => h pm (two_segment_disjoint_from_module (utf8_ne (by simp only [String.reduceNe])) hc hm),
   fun pm hm => h pm (two_segment_disjoint_from_module (utf8_ne (by simp only [String.reduceNe])) hc hm),
   fun pm hm => h pm (two_segment_disjoint_from_module (utf8_ne (by simp only [String.reduceNe])) hc hm),
   fun pr hr => h pr (two_segment_disjoint (utf8_ne (contract_namespace_ne_contracts a)) hc hr),
   fun b pb hne hb => h pb (two_segment_disjoint hne hc hb)⟩

end CwMt.Layout
