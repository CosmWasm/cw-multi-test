import CwMt.Proofs.Engine_Basic
import CwMt.Proofs.AMap
/-
  CwMt.Proofs.EngineB_Engine — the steps of the engine below the recursion: the call wrapper `callContract`
  (C10, C12, C13), and what a successful bank message, `sendFunds`, `registerContract` (C11) and `updateAdmin` (C12)
  did to the state.
-/
namespace CwMt.EngineB
open CwMt CwMt.Engine
variable {E : Type}

theorem callContract_eq (cfg : Config E) (blk : Block) (ch : Chain E) (addr : Addr) (en : Entry)
    (tr : Trace) {cd : ContractData} {code : Code E}
    (hc : ch.contracts.get? addr = some cd) (hcode : contractCode? cfg cd.codeId = some code) :
    callContract cfg blk ch addr en tr =
      (let own := (ch.cstore.get? addr).getD []
       let res := code.run en (contractEnv blk addr) ch own
       let tr' := tr ++ [{ callee := addr, entry := en, env := contractEnv blk addr, note := res.2 }]
       match res.1 with
       | .ok (resp, own') =>
         if responseOk resp then (.ok (resp, { ch with cstore := ch.cstore.set addr own' }), tr') else (.err, tr')
       | .err => (.err, tr')
       | .panic => (.panic, tr')
       | .outOfFuel => (.outOfFuel, tr')) := by
  unfold callContract
  simp only [hc, hcode]
  rfl

theorem buildAppResponse_events (addr : Addr) (custom : Event) (r : Response) :
    (buildAppResponse addr custom r).1.events =
      custom :: ((if r.attrs.isEmpty then [] else [{ ty := "wasm", attrs := contractAttr addr :: r.attrs }]) ++
        r.events.map fun ev => { ty := "wasm-" ++ ev.ty, attrs := contractAttr addr :: ev.attrs }) := by rfl

theorem bankExecute_ok {ch ch' : Chain E} {s : Addr} {m : Msg} {r : AppResponse}
    (h : bankExecute ch s m = .ok (r, ch')) :
    ∃ b, ch' = { ch with bank := b } ∧
      ((∃ to a, m = .bankSend to a ∧ Bank.send ch.bank s to a = some b) ∨
        ∃ a, m = .bankBurn a ∧ Bank.burn ch.bank s a = some b) := by
  cases m with
  | bankSend to a =>
    rw [bankExecute_bankSend] at h
    cases hs : Bank.send ch.bank s to a with
    | none => rw [hs] at h; cases h
    | some b => rw [hs] at h; cases h; exact ⟨b, rfl, .inl ⟨to, a, rfl, hs⟩⟩
  | bankBurn a =>
    rw [bankExecute_bankBurn] at h
    cases hs : Bank.burn ch.bank s a with
    | none => rw [hs] at h; cases h
    | some b => rw [hs] at h; cases h; exact ⟨b, rfl, .inr ⟨a, rfl, hs⟩⟩
  | _ => cases h

theorem sendFunds_ok {ch ch' : Chain E} {s : Addr} {c : String} {f : Coins} (h : sendFunds ch s c f = .ok ch') :
    (f = [] ∧ ch' = ch) ∨ (f ≠ [] ∧ ∃ b, Bank.send ch.bank s c f = some b ∧ ch' = { ch with bank := b }) := by
  rw [sendFunds_eq] at h
  split at h
  · cases h; exact .inl ⟨‹_›, rfl⟩
  · cases hs : Bank.send ch.bank s c f with
    | none => rw [hs] at h; cases h
    | some b => rw [hs] at h; cases h; exact .inr ⟨‹_›, b, rfl, rfl⟩

theorem sendFunds_nonempty {ch ch₁ : Chain E} {sender : Addr} {c : String} {funds : Coins}
    (hs : sendFunds ch sender c funds = .ok ch₁) (hne : funds ≠ []) :
    Bank.send ch.bank sender c funds = some ch₁.bank := by
  rcases sendFunds_ok hs with ⟨h, _⟩ | ⟨_, b, hb, rfl⟩
  · exact absurd h hne
  · exact hb

theorem codeKnown_eq (cfg : Config E) (id : Nat) : codeKnown cfg id = (cfg.codes.lookup id).isSome := by rfl

theorem codeData?_eq_lookup (cfg : Config E) {id : Nat} (h : 1 ≤ id) : codeData? cfg id = cfg.codes.lookup id :=
  if_neg (Nat.not_lt.2 h)

theorem codeKnown_of_codeData? {cfg : Config E} {id : Nat} {cd : CodeData} (h : codeData? cfg id = some cd) :
    codeKnown cfg id = true := by
  unfold codeData? at h
  split at h
  · cases h
  · rw [codeKnown_eq, h]; rfl

theorem registerContract_ok {cfg : Config E} {ch ch' : Chain E} {codeId : Nat} {creator : Addr} {admin : Option Addr}
    {label : String} {created : Nat} {salt : Option Val} {addr : Addr}
    (h : registerContract cfg ch codeId creator admin label created salt = .ok (addr, ch')) :
    codeKnown cfg codeId = true ∧
    (match salt with
     | none => cfg.addrClassic codeId ch.contracts.length = .ok addr
     | some s => ∃ cd, codeData? cfg codeId = some cd ∧ cfg.validAddr creator = true ∧
         cfg.addrSalted cd.checksum creator s = .ok addr) ∧
    ch.contracts.get? addr = none ∧
    ch' = { ch with
      contracts := ch.contracts.set addr
                     { codeId := codeId, creator := creator, admin := admin, label := label, created := created } } := by
  unfold registerContract at h
  by_cases hk : (!codeKnown cfg codeId) = true
  · rw [if_pos hk] at h; cases h
  rw [if_neg hk] at h
  simp only at h
  split at h
  next a ha =>
    by_cases hex : (ch.contracts.get? a).isSome = true
    · rw [if_pos hex] at h; cases h
    rw [if_neg hex] at h
    cases h
    refine ⟨by simpa using hk, ?_, by simpa using hex, rfl⟩
    cases salt with
    | none => exact ha
    | some s =>
      simp only at ha ⊢
      cases hcd : codeData? cfg codeId with
      | none => rw [hcd] at ha; cases ha
      | some cd =>
        rw [hcd] at ha
        simp only at ha
        by_cases hv : cfg.validAddr creator = true
        · exact ⟨cd, rfl, hv, (if_pos hv).symm.trans ha⟩
        · rw [if_neg hv] at ha; cases ha
  all_goals cases h

theorem registerContract_effect {cfg : Config E} {ch ch' : Chain E} {codeId : Nat} {creator : Addr} {admin : Option Addr}
    {label : String} {created : Nat} {salt : Option Val} {addr : Addr}
    (h : registerContract cfg ch codeId creator admin label created salt = .ok (addr, ch')) :
    ch.contracts.get? addr = none ∧
    ch'.contracts.get? addr = some { codeId := codeId, creator := creator, admin := admin, label := label, created := created } ∧
    (∀ b, b ≠ addr → ch'.contracts.get? b = ch.contracts.get? b) ∧
    ch'.bank = ch.bank ∧ ch'.cstore = ch.cstore := by
  obtain ⟨_, _, hn, rfl⟩ := registerContract_ok h
  exact ⟨hn, AMap.get?_set_self _ _ _, fun b hb => AMap.get?_set_ne _ _ hb, rfl, rfl⟩

theorem registerContract_salted_taken {cfg : Config E} {ch : Chain E} {codeId : Nat} {creator : Addr} {salt : Val}
    {cd : CodeData} {addr : Addr} (admin : Option Addr) (label : String) (created : Nat)
    (hcd : codeData? cfg codeId = some cd) (hv : cfg.validAddr creator = true)
    (ha : cfg.addrSalted cd.checksum creator salt = .ok addr) (ht : (ch.contracts.get? addr).isSome = true) :
    registerContract cfg ch codeId creator admin label created (some salt) = .err := by
  unfold registerContract
  simp [codeKnown_of_codeData? hcd, hcd, hv, ha, ht]

/-- `C12.adminOf`, which the property file defines for its statements, unfolds to this: `C12.former_admin_rejected`
passes from the one to the other by `show`. -/
def adminOf (ch : Chain E) (c : String) : Option Addr := (ch.contracts.get? c).bind (·.admin)

/-- the validity check of the new admin, named so that the guard of `updateAdmin` is one Boolean to split on -/
def newAdminValid (cfg : Config E) (new : Option String) : Bool :=
  match new with | some a => cfg.validAddr a | none => true

theorem updateAdmin_eq (cfg : Config E) (ch : Chain E) (sender : Addr) (c : String) (new : Option String) :
    updateAdmin cfg ch sender c new =
      if (!cfg.validAddr c) = true then .err else
      if (!newAdminValid cfg new) = true then .err else
      match ch.contracts.get? c with
      | none => .err
      | some cd =>
        if cd.admin ≠ some sender then .err
        else .ok ({}, { ch with contracts := ch.contracts.set c { cd with admin := new } }) := by
  cases new <;> rfl

theorem updateAdmin_cases (cfg : Config E) (ch : Chain E) (sender : Addr) (c : String) (new : Option String) :
    updateAdmin cfg ch sender c new = .err ∨
    ∃ cd, ch.contracts.get? c = some cd ∧ cd.admin = some sender ∧
      updateAdmin cfg ch sender c new =
        .ok ({}, { ch with contracts := ch.contracts.set c { cd with admin := new } }) := by
  rw [updateAdmin_eq]
  by_cases h1 : (!cfg.validAddr c) = true
  · exact .inl (if_pos h1)
  by_cases h2 : (!newAdminValid cfg new) = true
  · exact .inl ((if_neg h1).trans (if_pos h2))
  rw [if_neg h1, if_neg h2]
  cases ch.contracts.get? c with
  | none => exact .inl rfl
  | some cd =>
    by_cases ha : cd.admin = some sender
    · exact .inr ⟨cd, rfl, ha, if_neg (not_not_intro ha)⟩
    · exact .inl (if_pos ha)

theorem updateAdmin_ok {cfg : Config E} {ch ch' : Chain E} {sender : Addr} {c : String}
    {new : Option String} {r : AppResponse}
    (h : updateAdmin cfg ch sender c new = .ok (r, ch')) :
    ∃ cd, ch.contracts.get? c = some cd ∧ cd.admin = some sender ∧ r = {} ∧
      ch' = { ch with contracts := ch.contracts.set c { cd with admin := new } } := by
  rcases updateAdmin_cases cfg ch sender c new with he | ⟨cd, hcd, ha, he⟩
  · rw [he] at h; cases h
  · rw [he] at h; cases h
    exact ⟨cd, hcd, ha, rfl, rfl⟩

theorem updateAdmin_effect {cfg : Config E} {ch ch' : Chain E} {sender : Addr} {c : String}
    {new : Option String} {r : AppResponse}
    (h : updateAdmin cfg ch sender c new = .ok (r, ch')) :
    adminOf ch' c = new ∧
    (∃ cd, ch.contracts.get? c = some cd ∧ ch'.contracts.get? c = some { cd with admin := new }) ∧
    (∀ b, b ≠ c → ch'.contracts.get? b = ch.contracts.get? b) ∧
    ch'.bank = ch.bank ∧ ch'.cstore = ch.cstore ∧ r = {} := by
  obtain ⟨cd, hcd, _, hr, rfl⟩ := updateAdmin_ok h
  refine ⟨?_, ⟨cd, hcd, AMap.get?_set_self _ _ _⟩, fun b hb => AMap.get?_set_ne _ _ hb, rfl, rfl, hr⟩
  simp [adminOf, AMap.get?_set_self]

theorem updateAdmin_non_admin (cfg : Config E) (ch : Chain E) (sender : Addr) (c : String)
    (new : Option String) (h : adminOf ch c ≠ some sender) :
    updateAdmin cfg ch sender c new = .err := by
  rcases updateAdmin_cases cfg ch sender c new with he | ⟨cd, hcd, ha, _⟩
  · exact he
  · rw [adminOf, hcd] at h
    exact absurd ha h

end CwMt.EngineB
