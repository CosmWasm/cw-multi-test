import CwMt.Proofs.StakingInv
/-
  CwMt.Proofs.StakingOps — C14: what delegate / undelegate / redelegate do, in terms of `stakeOf` (the record view, with
  the reward accumulators, is in StakingHistory). The three are `update_stake` plus a bank send or a queue entry, so
  everything comes from the effect of `update_stake` on the pair and its validator (`UEffect`) and its frame (`USpec`):
  `DelegateEffect` and `UndelegateEffect` carry the `UEffect`, `RedelegateEffect` composes two of them into the stakes of
  source and destination (for different validators). Last: when an undelegation succeeds.
-/
namespace CwMt
namespace Staking
open KMap

variable {cfg : Cfg} {c c' : Chain} {a : Addr} {v : String} {coin : Coin}

/-- what a successful `update_stake` does to the stake of the pair `(d, v)` and to the total of `v` -/
structure UEffect (s : SState) (d : Addr) (v : String) (amount : Nat) (sub : Bool) (s' : SState) : Prop where
  self_add : sub = false → stakeOf s' d v = Dec.add (stakeOf s d v) (Dec.ofNat amount)
  self_sub : sub = true → stakeOf s' d v = Dec.sub (stakeOf s d v) (Dec.ofNat amount) ∧
                Dec.ofNat amount ≤ stakeOf s d v
  others : ∀ d2 w, (d2, w) ≠ (d, v) → stakeOf s' d2 w = stakeOf s d2 w
  other_validators : ∀ k : Addr × String, k.2 ≠ v → get? s'.stakes k = get? s.stakes k
  vinfo_other : ∀ w, w ≠ v → get? s'.vinfo w = get? s.vinfo w
  vinfo_self : ∃ vi vi2, get? s.vinfo v = some vi ∧ get? s'.vinfo v = some vi2 ∧
      (sub = false → vi2.stake = vi.stake + amount) ∧ (sub = true → vi2.stake + amount = vi.stake)
  valid : ∃ vo, s.validator? v = some vo

theorem updateStake_effect {s s' : SState} {now : Nat} {d : Addr} {amount : Nat} {sub : Bool}
    (h : updateStake s now d v amount sub = .ok s') : UEffect s d v amount sub s' := by
  obtain ⟨s1, h1, h2⟩ := updateStake_ok_iff.mp h
  have ur := updateRewards_spec h1
  obtain ⟨vi, hvi, hvi1⟩ := ur.vinfo_self
  obtain ⟨hsub, rfl⟩ := applyStake_ok h2
  rw [viOf_of_get? hvi1] at hsub ⊢
  have hcur : (curShares s1 d v).stake = stakeOf s d v := ur.stakeOf_eq d v
  refine ⟨?_, ?_, ?_, ?_, ?_, ?_, ur.valid⟩
  · rintro rfl; rw [stakeOf_stakeSaved, ← hcur]; rfl
  · rintro rfl
    exact ⟨by rw [stakeOf_stakeSaved, ← hcur]; rfl, by rw [← hcur]; exact (hsub rfl).2.1⟩
  · intro d2 w hne
    rw [← ur.stakeOf_eq d2 w]
    exact stakeOf_congr (by rw [get?_stakeSaved_stakes, if_neg hne])
  · intro k hk
    rw [get?_stakeSaved_stakes, if_neg (fun e => hk (by rw [e])), ur.stakes_other hk]
  · intro w hw
    rw [get?_stakeSaved_vinfo, if_neg hw]; exact ur.vinfo_other w hw
  · rw [get?_stakeSaved_vinfo, if_pos rfl]
    refine ⟨vi, _, hvi, rfl, ?_, ?_⟩ <;> rintro rfl <;> simp only [Bool.false_eq_true, ite_false, ite_true]
    exact Nat.sub_add_cancel (hsub rfl).2.2

structure DelegateEffect (cfg : Cfg) (c : Chain) (a : Addr) (v : String) (coin : Coin) (c' : Chain) : Prop where
  amount_ne : coin.amount ≠ 0
  denom : coin.denom = c.st.info.bondedDenom
  stake : UEffect c.st a v coin.amount false c'.st
  bank : ∀ x d, Bank.queryBalance c'.bank x d + (if x = a ∧ d = coin.denom then coin.amount else 0) =
                Bank.queryBalance c.bank x d + (if x = cfg.pool ∧ d = coin.denom then coin.amount else 0)
  queue : c'.st.queue = c.st.queue
  withdraw : c'.st.withdraw = c.st.withdraw
  info : c'.st.info = c.st.info
  time : c'.time = c.time

theorem delegate_effect (hwf : BankFacts.WF c.bank) (h : delegate cfg c a v coin = .ok c') : DelegateEffect cfg c a v coin c' := by
  obtain ⟨hnz, hden, st, bank, hst, hb, rfl⟩ := delegate_ok h
  have sp := updateStake_spec hst
  exact ⟨hnz, hden, updateStake_effect hst, BankFacts.queryBalance_send_single hwf hb, sp.queue, sp.withdraw, sp.info, rfl⟩

structure UndelegateEffect (c : Chain) (a : Addr) (v : String) (coin : Coin) (c' : Chain) : Prop where
  amount_ne : coin.amount ≠ 0
  denom : coin.denom = c.st.info.bondedDenom
  stake : UEffect c.st a v coin.amount true c'.st
  queue : c'.st.queue = c.st.queue ++ [⟨a, v, coin.amount, c.time + NS * c.st.info.unbondingTime⟩]
  bank : c'.bank = c.bank
  withdraw : c'.st.withdraw = c.st.withdraw
  info : c'.st.info = c.st.info
  time : c'.time = c.time

theorem undelegate_effect (h : undelegate c a v coin = .ok c') : UndelegateEffect c a v coin c' := by
  obtain ⟨hden, hnz, st, hst, rfl⟩ := undelegate_ok_iff.mp h
  have sp := updateStake_spec hst
  have ef := updateStake_effect hst
  -- the new state is `st` with a longer queue, which `UEffect` does not read
  exact ⟨hnz, hden, { ef with }, by simp [sp.queue, sp.info], rfl, sp.withdraw, sp.info, rfl⟩

structure RedelegateEffect (c : Chain) (a : Addr) (v1 v2 : String) (coin : Coin) (c' : Chain) : Prop where
  denom : coin.denom = c.st.info.bondedDenom
  known_src : ∃ vo, c.st.validator? v1 = some vo
  known_dst : ∃ vo, c.st.validator? v2 = some vo
  enough : Dec.ofNat coin.amount ≤ stakeOf c.st a v1
  -- nothing is said for `v1 = v2`: the stake is taken and put back, and when all of it moves the record is dropped in
  -- between, with its accumulator
  moved : v1 ≠ v2 → stakeOf c'.st a v1 = Dec.sub (stakeOf c.st a v1) (Dec.ofNat coin.amount) ∧
                    stakeOf c'.st a v2 = Dec.add (stakeOf c.st a v2) (Dec.ofNat coin.amount)
  others : ∀ d2 w, (d2, w) ≠ (a, v1) → (d2, w) ≠ (a, v2) → stakeOf c'.st d2 w = stakeOf c.st d2 w
  queue : c'.st.queue = c.st.queue
  bank : c'.bank = c.bank
  withdraw : c'.st.withdraw = c.st.withdraw
  time : c'.time = c.time

theorem redelegate_effect {v1 v2 : String} (h : redelegate c a v1 v2 coin = .ok c') :
    RedelegateEffect c a v1 v2 coin c' := by
  obtain ⟨hden, st1, st2, h1, h2, rfl⟩ := redelegate_ok h
  have e1 := updateStake_effect h1
  have e2 := updateStake_effect h2
  have s1 := updateStake_spec h1
  have s2 := updateStake_spec h2
  obtain ⟨x1, x2⟩ := e1.self_sub rfl
  refine ⟨hden, e1.valid, by rw [← validator?_congr s1.validators]; exact e2.valid, x2, fun hne => ⟨?_, ?_⟩,
    fun d2 w n1 n2 => by rw [e2.others d2 w n2, e1.others d2 w n1], by rw [s2.queue, s1.queue], rfl,
    by rw [s2.withdraw, s1.withdraw], rfl⟩
  · rw [e2.others a v1 (fun e => hne (Prod.mk.inj e).2), x1]
  · rw [e2.self_add rfl, e1.others a v2 (fun e => hne (Prod.mk.inj e).2.symm)]

/-- thanks to I5 an undelegation cannot fail for lack of validator total: these four conditions are all there is -/
theorem undelegate_succeeds_iff (hi : Inv cfg c) :
    (∃ c', undelegate c a v coin = .ok c') ↔
      coin.amount ≠ 0 ∧ coin.denom = c.st.info.bondedDenom ∧ (∃ vo, c.st.validator? v = some vo) ∧
        Dec.ofNat coin.amount ≤ stakeOf c.st a v := by
  constructor
  · rintro ⟨c', h⟩
    have e := undelegate_effect h
    exact ⟨e.amount_ne, e.denom, e.stake.valid, (e.stake.self_sub rfl).2⟩
  · rintro ⟨hnz, hden, ⟨vo, hvo⟩, hle⟩
    obtain ⟨st, h⟩ := updateStake_sub_succeeds hi.sinv hi.tinv c.time hvo hnz hle
    exact ⟨_, undelegate_ok_iff.mpr ⟨hden, hnz, st, h, rfl⟩⟩

theorem undelegate_shown_succeeds {cfg : Cfg} {c : Chain} {a : Addr} {v : String} {coin : Coin} {vo : Validator}
    (hi : Inv cfg c) (hvo : c.st.validator? v = some vo) (hden : coin.denom = c.st.info.bondedDenom)
    (hnz : coin.amount ≠ 0) (hle : coin.amount ≤ (stakeOf c.st a v).floor) :
    ∃ c', undelegate c a v coin = .ok c' :=
  (undelegate_succeeds_iff hi).mpr ⟨hnz, hden, ⟨vo, hvo⟩,
    Nat.le_trans (Nat.mul_le_mul_left _ hle) (Nat.mul_div_le _ _)⟩

end Staking
end CwMt
