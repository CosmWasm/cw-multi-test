import CwMt.Proofs.Bech32_Checksum
import CwMt.Proofs.Bech32_Bits
import CwMt.Proofs.Bech32_Chars
import CwMt.Proofs.Outcome
/-
  `encode` / `decodeChecked` and the four `Api` functions of the Bech32 model, on top of the checksum
  (Bech32_Checksum), the regrouping (Bech32_Bits) and the character level (Bech32_Chars).

  Every function gets an iff specification (`encode_eq_some_iff`, `decodeChecked_eq_some_iff`, `addrHumanize_ok_iff`,
  `addrCanonicalize_ok_iff`, `addrMake_ok_iff`, `addrValidate_ok_iff`, `strictDecode_eq_some_iff`), and
  `encode_eq_some_iff_decode` says that the encodings are exactly the strings without uppercase letters that decode;
  validation, strict decoding and rejection are read off these. That `addr_canonicalize`, `addr_humanize` and
  `addr_validate` never panic is `Outcome.Safe` of them (`addrCanonicalize_safe`, …).
-/
namespace CwMt.Bech32

/-- a prefix in the sense of reading R4: a valid HRP that is its own lowercase form -/
def ValidPrefix (p : List Char) : Prop := hrpValid p = true ∧ hasUpper p = false

instance (p : List Char) : Decidable (ValidPrefix p) := by unfold ValidPrefix; exact inferInstance

theorem hrpValid_length {p : List Char} (h : hrpValid p = true) : 1 ≤ p.length ∧ p.length ≤ 83 := by
  unfold hrpValid at h
  simp only [Bool.and_eq_true, Bool.not_eq_eq_eq_not, Bool.not_true, decide_eq_true_eq] at h
  obtain ⟨⟨⟨h1, h2⟩, _⟩, _⟩ := h
  refine ⟨?_, h2⟩
  cases p with
  | nil => simp at h1
  | cons _ _ => simp

/-- a valid prefix (at most 83 characters) with up to 255 bytes stays within the code length: 83 + 1 + 408 + 6 -/
theorem le_codeLength_of_hrpValid {p : List Char} (hp : hrpValid p = true) {n : Nat} (hn : n ≤ 255) :
    p.length + 1 + (8 * n + 4) / 5 + 6 ≤ codeLength := by
  have := hrpValid_length hp
  unfold codeLength; omega

theorem lengthOk_of_le (v : Variant) {n : Nat} (h1 : 1 ≤ n) (h2 : n ≤ 255) : lengthOk v n = true := by
  cases v <;> simp [lengthOk, h1, h2]

-- 32 bytes: a SHA-256 digest (`Sha256.digest_length`)
theorem lengthOk_32 (v : Variant) : lengthOk v 32 = true := lengthOk_of_le v (by omega) (by omega)

theorem prefixMatches_self (v : Variant) (p : List Char) : prefixMatches v p p = true := by
  cases v <;> simp [prefixMatches]

theorem prefixMatches_lower {v : Variant} {h p : List Char} (hm : prefixMatches v h p = true) :
    lower h = lower p := by
  cases v
  · simp only [prefixMatches, beq_iff_eq] at hm; rw [hm]
  · simp only [prefixMatches, beq_iff_eq] at hm; rw [hm]
  · simpa [prefixMatches] using hm

theorem encode_eq_some_iff {k : BitVec 30} {p : List Char} {bs : List UInt8} {s : List Char} :
    encode k p bs = some s ↔
      p.length + 1 + (bytesToFes bs).length + 6 ≤ codeLength ∧
      s = lower p ++ '1' :: ((bytesToFes bs) ++ createChecksum k p (bytesToFes bs)).map charOf := by
  simp only [encode, Option.ite_none_left_eq_some, Option.some.injEq, gt_iff_lt, Nat.not_lt]
  constructor <;> rintro ⟨h1, h2⟩ <;> exact ⟨h1, h2.symm⟩

/-- the encoder fails only beyond the code length (`n` bytes are `(8 * n + 4) / 5` symbols) -/
theorem encode_succeeds (k : BitVec 30) {p : List Char} {bs : List UInt8}
    (h : p.length + 1 + (8 * bs.length + 4) / 5 + 6 ≤ codeLength) : ∃ s, encode k p bs = some s :=
  ⟨_, encode_eq_some_iff.mpr ⟨by rw [bytesToFes_length]; exact h, rfl⟩⟩

theorem encode_length (k : BitVec 30) (p : List Char) (bs : List UInt8) (s : List Char)
    (h : encode k p bs = some s) : s.length = p.length + 1 + (bytesToFes bs).length + 6 := by
  obtain ⟨_, rfl⟩ := encode_eq_some_iff.mp h
  simp [lower_length, createChecksum_length]; omega

theorem encode_no_upper {k : BitVec 30} {p : List Char} {bs : List UInt8} {s : List Char}
    (h : encode k p bs = some s) : hasUpper s = false := by
  obtain ⟨_, rfl⟩ := encode_eq_some_iff.mp h
  rw [hasUpper_append, hasUpper_lower, ← List.singleton_append, hasUpper_append, hasUpper_map_charOf]; rfl

/-- the data part is the payload followed by the six checksum symbols -/
theorem decodeChecked_eq_some_iff {k : BitVec 30} {s h : List Char} {pl : List Sym} :
    decodeChecked k s = some (h, pl) ↔ ∃ d c6, splitLast1 s = some (h, d) ∧ symsOf d = some (pl ++ c6) ∧
      c6.length = 6 ∧ ¬ (hasUpper s = true ∧ hasLower s = true) ∧ hrpValid h = true ∧ s.length ≤ codeLength ∧
      polymod (hrpExpand h ++ (pl ++ c6)) = k := by
  unfold decodeChecked
  -- the two failing parses by `cases`: `simp` closes them too, but takes as long to check as the rest of this proof
  cases splitLast1 s with
  | none =>
    constructor
    · intro e; cases e
    · rintro ⟨_, _, e, -⟩; cases e
  | some hd =>
    obtain ⟨h', d⟩ := hd
    dsimp only
    cases hy : symsOf d with
    | none =>
      constructor
      · intro e; cases e
      · rintro ⟨_, _, e, h2, -⟩
        cases e
        rw [hy] at h2
        cases h2
    | some syms =>
      dsimp only
      simp only [Option.ite_none_left_eq_some, Option.some.injEq, Prod.mk.injEq, Bool.and_eq_true,
        Bool.not_eq_false, bne_iff_ne, ne_eq, Decidable.not_not, gt_iff_lt, Nat.not_lt, Bool.not_eq_eq_eq_not, Bool.not_true]
      constructor
      · rintro ⟨c1, c2, c3, c4, c5, rfl, rfl⟩
        refine ⟨d, syms.drop (syms.length - 6), ⟨rfl, rfl⟩, by rw [hy, List.take_append_drop], ?_, c1, c2, c3, ?_⟩
        · rw [List.length_drop]; exact Nat.sub_sub_self c4
        · rw [List.take_append_drop]; exact c5
      · rintro ⟨d', c6, ⟨rfl, rfl⟩, h2, h6, c1, c2, c3, c5⟩
        rw [hy] at h2
        obtain rfl := Option.some.inj h2
        rw [List.length_append, h6]
        exact ⟨c1, c2, c3, Nat.le_add_left _ _, c5, rfl, List.take_left' (Nat.add_sub_cancel ..).symm⟩

theorem encode_eq_some_iff_decode {k : BitVec 30} {p : List Char} {bs : List UInt8} {s : List Char}
    (hp : ValidPrefix p) :
    encode k p bs = some s ↔ hasUpper s = false ∧ decodeChecked k s = some (p, bytesToFes bs) := by
  rw [decodeChecked_eq_some_iff]
  constructor
  · intro h
    have hu := encode_no_upper h
    have hlen := encode_length _ _ _ _ h
    obtain ⟨hcl, hs⟩ := encode_eq_some_iff.mp h
    rw [lower_eq_self hp.2] at hs
    refine ⟨hu, _, _, splitLast1_eq_some_iff.mpr ⟨hs, one_not_mem_map_charOf _⟩, symsOf_map_charOf _,
      createChecksum_length _ _ _, ?_, hp.1, hlen ▸ hcl, checksum_verifies _ _ _⟩
    rw [hu]; simp
  · rintro ⟨hu, d, c6, hsp, hsy, hc6, -, -, hlen, hpoly⟩
    obtain ⟨rfl, -⟩ := splitLast1_eq_some_iff.mp hsp
    rw [hasUpper_append, ← List.singleton_append, hasUpper_append, Bool.or_eq_false_iff, Bool.or_eq_false_iff] at hu
    have hd := symsOf_eq_some_iff.mp hsy
    -- six symbols with the right residue are the checksum
    rw [lower_eq_self hu.2.2, (polymod_eq_iff_checksum hc6).mp hpoly] at hd
    rw [encode_eq_some_iff, lower_eq_self hu.1, ← hd]
    refine ⟨?_, rfl⟩
    rw [hd, List.length_append, List.length_cons, List.length_map, List.length_append, createChecksum_length] at hlen
    omega

theorem encode_inj {k k' : BitVec 30} {p p' : List Char} {bs bs' : List UInt8} {a : List Char}
    (h : encode k p bs = some a) (h' : encode k' p' bs' = some a) :
    lower p = lower p' ∧ bs = bs' ∧ k = k' := by
  obtain ⟨_, hs⟩ := encode_eq_some_iff.mp h
  obtain ⟨_, hs'⟩ := encode_eq_some_iff.mp h'
  have e1 := splitLast1_eq_some_iff.mpr ⟨hs, one_not_mem_map_charOf _⟩
  rw [splitLast1_eq_some_iff.mpr ⟨hs', one_not_mem_map_charOf _⟩] at e1
  simp only [Option.some.injEq, Prod.mk.injEq] at e1
  obtain ⟨hp, hd⟩ := e1
  obtain ⟨hf, hcs⟩ := List.append_inj' (map_charOf_inj hd) (by simp [createChecksum_length])
  have hb := congrArg fesToBytes hf
  rw [fesToBytes_bytesToFes, fesToBytes_bytesToFes] at hb
  subst hb
  refine ⟨hp.symm, rfl, ?_⟩
  -- both constants are the residue of the same checksummed string
  have hx : hrpExpand p = hrpExpand p' := by rw [← hrpExpand_lower p, ← hp, hrpExpand_lower]
  have h1 := checksum_verifies k' p' (bytesToFes bs')
  rw [hcs, ← hx, checksum_verifies] at h1
  exact h1

theorem addrHumanize_ok_iff {v : Variant} {p : List Char} {bs : List UInt8} {s : List Char} :
    addrHumanize v p bs = .ok s ↔
      lengthOk v bs.length = true ∧ hrpValid p = true ∧ encode (constOf v) p bs = some s := by
  unfold addrHumanize
  cases h1 : lengthOk v bs.length <;> cases h2 : hrpValid p <;> simp
  cases h3 : encode (constOf v) p bs <;> simp

theorem addrMake_ok_iff {H : List UInt8 → List UInt8} {v : Variant} {p : List Char} {n : List UInt8}
    {a : List Char} :
    addrMake H v p n = .ok a ↔ hrpValid p = true ∧ encode (constOf v) p (H n) = some a := by
  unfold addrMake
  cases h2 : hrpValid p <;> simp
  cases h3 : encode (constOf v) p (H n) <;> simp

theorem addrCanonicalize_ok_iff {v : Variant} {p s : List Char} {bs : List UInt8} :
    addrCanonicalize v p s = .ok bs ↔ ∃ h pl, decodeChecked (constOf v) s = some (h, pl) ∧
      prefixMatches v h p = true ∧ lengthOk v (fesToBytes pl).length = true ∧ bs = fesToBytes pl := by
  unfold addrCanonicalize
  cases decodeChecked (constOf v) s with
  | none => simp
  | some x =>
    obtain ⟨h', pl'⟩ := x
    dsimp only
    rw [Outcome.ite_err_ok_iff, Outcome.ite_err_ok_iff]
    constructor
    · rintro ⟨h1, h2, e⟩
      cases e
      exact ⟨h', pl', rfl, h1, h2, rfl⟩
    · rintro ⟨_, _, e, h1, h2, rfl⟩
      cases e
      exact ⟨h1, h2, rfl⟩

theorem addrCanonicalize_of_encode {v : Variant} {p : List Char} {bs : List UInt8} {s : List Char}
    (hp : ValidPrefix p) (hl : lengthOk v bs.length = true) (h : encode (constOf v) p bs = some s) :
    addrCanonicalize v p s = .ok bs :=
  addrCanonicalize_ok_iff.mpr ⟨p, _, ((encode_eq_some_iff_decode hp).mp h).2, prefixMatches_self v p,
    by rw [fesToBytes_bytesToFes]; exact hl, (fesToBytes_bytesToFes bs).symm⟩

theorem addrValidate_ok_iff {v : Variant} {p s s' : List Char} :
    addrValidate v p s = .ok s' ↔
      ∃ bs, addrCanonicalize v p s = .ok bs ∧ addrHumanize v p bs = .ok s ∧ s' = s := by
  unfold addrValidate
  cases addrCanonicalize v p s with
  | ok bs =>
    simp only [Outcome.ok.injEq, exists_eq_left']
    cases addrHumanize v p bs with
    | ok n =>
      by_cases e : s = n
      · subst e; simp [eq_comm]
      · simp [e, Ne.symm e]
    | _ => simp
  | _ => simp

theorem addrValidate_of_addrCanonicalize_err {v : Variant} {p s : List Char} (h : addrCanonicalize v p s = .err) :
    addrValidate v p s = .err := by
  rw [addrValidate, h]

theorem addrCanonicalize_safe (v : Variant) (p s : List Char) : Outcome.Safe (addrCanonicalize v p s) := by
  unfold addrCanonicalize
  split
  · exact Outcome.safe_err
  · exact Outcome.safe_ite (fun _ => Outcome.safe_ite (fun _ => Outcome.safe_ok _) fun _ => Outcome.safe_err)
      fun _ => Outcome.safe_err

theorem addrHumanize_safe (v : Variant) (p : List Char) (bs : List UInt8) : Outcome.Safe (addrHumanize v p bs) := by
  unfold addrHumanize
  refine Outcome.safe_ite (fun _ => Outcome.safe_err) fun _ => Outcome.safe_ite (fun _ => Outcome.safe_err) fun _ => ?_
  split
  · exact Outcome.safe_ok _
  · exact Outcome.safe_err

theorem addrValidate_safe (v : Variant) (p s : List Char) : Outcome.Safe (addrValidate v p s) := by
  unfold addrValidate
  rcases (addrCanonicalize_safe v p s).ok_or_err with ⟨bs, hc⟩ | hc <;> simp only [hc]
  · rcases (addrHumanize_safe v p bs).ok_or_err with ⟨n, hh⟩ | hh <;> simp only [hh]
    · exact Outcome.safe_ite (fun _ => Outcome.safe_err) fun _ => Outcome.safe_ok n
    · exact Outcome.safe_err
  · exact Outcome.safe_err

theorem make_ok_or_panic (H : List UInt8 → List UInt8) (v : Variant) (p : List Char) (n : List UInt8) :
    (∃ a, addrMake H v p n = .ok a) ∨ addrMake H v p n = .panic := by
  unfold addrMake
  split
  · right; rfl
  · split
    · left; exact ⟨_, rfl⟩
    · right; rfl

theorem addrValidate_iff_encode {v : Variant} {p s s' : List Char} (hp : ValidPrefix p) :
    addrValidate v p s = .ok s' ↔
      ∃ bs, lengthOk v bs.length = true ∧ encode (constOf v) p bs = some s ∧ s' = s := by
  simp only [addrValidate_ok_iff, addrHumanize_ok_iff]
  constructor
  · rintro ⟨bs, -, ⟨h1, -, h3⟩, h4⟩
    exact ⟨bs, h1, h3, h4⟩
  · rintro ⟨bs, h1, h2, h3⟩
    exact ⟨bs, addrCanonicalize_of_encode hp h1 h2, ⟨h1, hp.1, h2⟩, h3⟩

theorem strictDecode_eq_some_iff {v : Variant} {p s : List Char} {bs : List UInt8} :
    strictDecode v p s = some bs ↔ ∃ pl, decodeChecked (constOf v) s = some (p, pl) ∧ hasUpper s = false ∧
      strictPad pl = true ∧ lengthOk v (fesToBytes pl).length = true ∧ bs = fesToBytes pl := by
  -- both functions split and parse alike, and then test the same conditions in a different order
  unfold strictDecode decodeChecked
  cases splitLast1 s with
  | none => simp
  | some hd =>
    obtain ⟨h', d⟩ := hd
    cases hy : symsOf d with
    | none => simp [hy]
    | some syms =>
      simp only [hy, Option.ite_none_right_eq_some, Option.ite_none_left_eq_some, Option.some.injEq, Prod.mk.injEq,
        Bool.and_eq_true, beq_iff_eq, bne_iff_ne, ne_eq, Decidable.not_not, Bool.not_eq_eq_eq_not, Bool.not_true,
        Bool.not_eq_false, decide_eq_true_eq, gt_iff_lt, Nat.not_lt]
      constructor
      · rintro ⟨⟨⟨⟨⟨⟨⟨⟨rfl, c2⟩, c3⟩, c4⟩, c5⟩, c6⟩, c7⟩, c8⟩, rfl⟩
        exact ⟨_, ⟨by simp [c3], c2, c4, c5, c6, rfl, rfl⟩, c3, c7, c8, rfl⟩
      · rintro ⟨_, ⟨-, c2, c4, c5, c6, rfl, rfl⟩, c3, c7, c8, rfl⟩
        exact ⟨⟨⟨⟨⟨⟨⟨⟨rfl, c2⟩, c3⟩, c4⟩, c5⟩, c6⟩, c7⟩, c8⟩, rfl⟩

theorem strictDecode_iff_encode {v : Variant} {p s : List Char} {bs : List UInt8} (hp : ValidPrefix p) :
    strictDecode v p s = some bs ↔ lengthOk v bs.length = true ∧ encode (constOf v) p bs = some s := by
  rw [strictDecode_eq_some_iff, encode_eq_some_iff_decode hp]
  constructor
  · rintro ⟨pl, hd, hu, hpad, hl, rfl⟩
    rw [bytesToFes_fesToBytes hpad]
    exact ⟨hl, hu, hd⟩
  · rintro ⟨hl, hu, hd⟩
    exact ⟨_, hd, hu, strictPad_bytesToFes bs, by rw [fesToBytes_bytesToFes]; exact hl, (fesToBytes_bytesToFes bs).symm⟩

theorem validate_exact (v : Variant) (p s s' : List Char) (hp : ValidPrefix p) :
    addrValidate v p s = .ok s' ↔ (∃ bs, strictDecode v p s = some bs) ∧ s' = s := by
  simp only [addrValidate_iff_encode hp, strictDecode_iff_encode hp, ← and_assoc, exists_and_right]

theorem rejected_of_addrCanonicalize_ne_ok {v : Variant} {p s : List Char}
    (h : ∀ bs, addrCanonicalize v p s ≠ .ok bs) :
    addrCanonicalize v p s = .err ∧ addrValidate v p s = .err := by
  rcases (addrCanonicalize_safe v p s).ok_or_err with ⟨bs, e⟩ | e
  · exact absurd e (h bs)
  · exact ⟨e, addrValidate_of_addrCanonicalize_err e⟩

/-- a string is read in one way only: two codecs that both accept it agree on the prefix (up to case) and on the
checksum constant -/
theorem addrCanonicalize_ok_agree {v w : Variant} {p q s : List Char} {bs bs' : List UInt8}
    (h : addrCanonicalize v p s = .ok bs) (h' : addrCanonicalize w q s = .ok bs') :
    lower p = lower q ∧ constOf v = constOf w := by
  obtain ⟨h1, pl1, hd1, hm1, -⟩ := addrCanonicalize_ok_iff.mp h
  obtain ⟨h2, pl2, hd2, hm2, -⟩ := addrCanonicalize_ok_iff.mp h'
  obtain ⟨d1, c1, hs1, hy1, -, -, -, -, hp1⟩ := decodeChecked_eq_some_iff.mp hd1
  obtain ⟨d2, c2, hs2, hy2, -, -, -, -, hp2⟩ := decodeChecked_eq_some_iff.mp hd2
  -- the same string has the same prefix as written and the same symbols, hence one residue
  rw [hs1] at hs2; cases hs2
  rw [hy1] at hy2
  rw [Option.some.inj hy2] at hp1
  exact ⟨(prefixMatches_lower hm1).symm.trans (prefixMatches_lower hm2), hp1.symm.trans hp2⟩

/-- two strings that differ in one place and begin alike differ in that place after the common beginning -/
theorem append_cons_diff {α} {u pre post X Y : List α} {a b : α} (hab : a ≠ b)
    (h1 : pre ++ a :: post = u ++ X) (h2 : pre ++ b :: post = u ++ Y) :
    ∃ t, X = t ++ a :: post ∧ Y = t ++ b :: post := by
  rcases List.append_eq_append_iff.mp h1 with ⟨t, rfl, ht⟩ | ⟨t, rfl, ht⟩
  · cases t with
    | nil => exact ⟨[], ht.symm, by simpa using h2.symm⟩
    | cons x t' =>
      obtain ⟨rfl, -⟩ := List.cons.inj ht
      rw [List.append_assoc, List.append_right_inj, List.cons_append, List.cons.injEq] at h2
      exact absurd h2.1.symm hab
  · rw [List.append_assoc, List.append_right_inj] at h2
    exact ⟨t, ht, h2.symm⟩

/-- what `addr_canonicalize` accepts is, lowercased, the prefix, the separator and symbols with the right residue -/
theorem addrCanonicalize_ok_lower {v : Variant} {p s : List Char} {bs : List UInt8}
    (h : addrCanonicalize v p s = .ok bs) :
    ∃ syms, lower s = lower p ++ '1' :: syms.map charOf ∧ polymod (hrpExpand p ++ syms) = constOf v := by
  obtain ⟨h1, pl, hd, hm, -⟩ := addrCanonicalize_ok_iff.mp h
  obtain ⟨d, c6, hsp, hsy, -, -, -, -, hpoly⟩ := decodeChecked_eq_some_iff.mp hd
  obtain ⟨rfl, -⟩ := splitLast1_eq_some_iff.mp hsp
  have hl := prefixMatches_lower hm
  refine ⟨pl ++ c6, ?_, ?_⟩
  · rw [lower_append, lower_cons, hl, symsOf_eq_some_iff.mp hsy]; rfl
  · rw [← hrpExpand_lower h1, hl, hrpExpand_lower] at hpoly; exact hpoly

end CwMt.Bech32
