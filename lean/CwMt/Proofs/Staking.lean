import CwMt.Proofs.StakingPrim
/-
  CwMt.Proofs.Staking — the storage-level invariants of the staking machine: `SInv` (I1, I2: staker sets in step with the
  records; commissions at most 1), `LastLe` (no reward calculation in the future), `TInv` (I5: a validator's total covers the
  whole tokens of its shares), with the sums `totalStake`, `shareSum`, `scaledTotal` they speak of.

  For every storage-level step `f` and every invariant `I` it could break there is one lemma `I_f`: `updateRewards`,
  `stakeSaved` (the save tail of `update_stake`; `applyStake` and `dropIfEmpty` are instances of it), `applySlash`, and the
  write of a record's `rewards` (`I_set_rewards`: the reset of a withdrawal); for `dropIfEmpty` they are the fields of
  `DropEffect`. What a step leaves alone is in `UR`, can be read off `stakeSaved_eq` (StakingPrim) / `applySlash_ok`, or
  holds by `rfl`. At the end: when `update_stake` succeeds, and the `_safe` lemmas of every function up to the operations.

  The structures: `UR` is what `update_rewards` may change. `update_stake` is described twice: `USpec` has frame, `SInv`,
  `LastLe` and the sum of the validator totals, for any pair (`TInv` is `TInv_updateStake`); `UEffect` (StakingOps) has the
  stake of the pair and the total of its validator. `DelegateEffect`, `UndelegateEffect`, `RedelegateEffect` are `UEffect`
  plus bank and queue; `SlashEffect` (StakingSlash) and `WithdrawEffect` (StakingRewards) stand alone.
-/
namespace CwMt
namespace Staking
open KMap Outcome

def totalStake (m : KMap String ValInfo) : Nat := (m.map (·.2.stake)).sum
def queueTotal (q : List Unbonding) : Nat := (q.map (·.amount)).sum

def poolBal (cfg : Cfg) (c : Chain) : Nat := Bank.queryBalance c.bank cfg.pool c.st.info.bondedDenom

theorem totalStake_set (m : KMap String ValInfo) (k : String) (old new : ValInfo) (h : get? m k = some old) :
    totalStake (KMap.set m k new) + old.stake ≤ totalStake m + new.stake := by
  have := sum_set (·.2.stake) m k new
  rwa [h] at this

theorem totalStake_set_new (m : KMap String ValInfo) (k : String) (new : ValInfo) :
    totalStake (KMap.set m k new) ≤ totalStake m + new.stake :=
  Nat.le_trans (Nat.le_add_right _ _) (sum_set (fun p : String × ValInfo => p.2.stake) m k new)

/-- Σ of the stake atomics of ALL records of validator `v`. The accumulator of `slash`, `sumShares`, runs over the records
owned by the staker set only; the two agree under I2 (`sumShares_eq_shareSum`, with `SInv.owners_listed`). -/
def shareSum (stakes : KMap (Addr × String) Shares) (v : String) : Nat :=
  ((stakes.filter fun p => p.1.2 = v).map (·.2.stake.atomics)).sum

/-- each product rounded down at 10^-18 -/
def scaledTotal (stakes : KMap (Addr × String) Shares) (v : String) (rem : Dec) : Nat :=
  ((stakes.filter fun p => p.1.2 = v).map (fun p => (Dec.mul p.2.stake rem).atomics)).sum

variable {s s' : SState} {now : Nat} {d : Addr} {v : String} {vi : ValInfo} {rem : Dec}

/-- Σ of `g` over the stakes of the records of validator `w`. By `rfl`, `shareSum m w` is `stakeSum (·.atomics) m w` and
`scaledTotal m w rem` is `stakeSum (fun x => (Dec.mul x rem).atomics) m w`. -/
def stakeSum (g : Dec → Nat) (m : KMap (Addr × String) Shares) (w : String) : Nat :=
  ((m.filter fun p => p.1.2 = w).map fun p => g p.2.stake).sum

theorem stakeSum_cons (g : Dec → Nat) (p : (Addr × String) × Shares) (m : KMap (Addr × String) Shares) (w : String) :
    stakeSum g (p :: m) w = (if p.1.2 = w then g p.2.stake else 0) + stakeSum g m w :=
  sum_filter_cons (fun p : (Addr × String) × Shares => p.1.2 = w) _ p m

theorem shareSum_nil (v : String) : shareSum [] v = 0 := rfl

theorem shareSum_cons (p : (Addr × String) × Shares) (m : KMap (Addr × String) Shares) (v : String) :
    shareSum (p :: m) v = (if p.1.2 = v then p.2.stake.atomics else 0) + shareSum m v :=
  stakeSum_cons (·.atomics) p m v

theorem scaledTotal_cons (p : (Addr × String) × Shares) (m : KMap (Addr × String) Shares) (v : String) (rem : Dec) :
    scaledTotal (p :: m) v rem = (if p.1.2 = v then (Dec.mul p.2.stake rem).atomics else 0) + scaledTotal m v rem :=
  stakeSum_cons (fun x => (Dec.mul x rem).atomics) p m v

/-- `shareSum` as a sum over all entries, the form of `KMap.sum_erase` -/
theorem shareSum_eq_sum (m : KMap (Addr × String) Shares) (v : String) :
    shareSum m v = (m.map fun p => if p.1.2 = v then p.2.stake.atomics else 0).sum := by
  induction m with
  | nil => rfl
  | cons p m ih => rw [shareSum_cons, ih]; rfl

theorem shareSum_erase (m : KMap (Addr × String) Shares) (k : Addr × String) (w : String) :
    shareSum (erase m k) w + (get? m k).elim 0 (fun sh => if k.2 = w then sh.stake.atomics else 0) ≤ shareSum m w := by
  rw [shareSum_eq_sum, shareSum_eq_sum]; exact sum_erase _ m k

theorem shareSum_erase_get (m : KMap (Addr × String) Shares) (k : Addr × String) (w : String) (old : Shares)
    (h : get? m k = some old) :
    shareSum (erase m k) w + (if k.2 = w then old.stake.atomics else 0) ≤ shareSum m w := by
  have := shareSum_erase m k w
  rwa [h] at this

theorem shareSum_set (m : KMap (Addr × String) Shares) (k : Addr × String) (new : Shares) (w : String) :
    shareSum (KMap.set m k new) w = (if k.2 = w then new.stake.atomics else 0) + shareSum (erase m k) w := by
  rw [set_eq, shareSum_cons]

/-- a pass `F` over the records under which `g'` reads from the new stake what `g` read from the old one keeps the sum -/
theorem stakeSum_mapVal (g g' : Dec → Nat) (m : KMap (Addr × String) Shares) (F : (Addr × String) × Shares → Shares)
    (w : String) (hF : ∀ p ∈ m, p.1.2 = w → g' (F p).stake = g p.2.stake) :
    stakeSum g' (m.map fun p => (p.1, F p)) w = stakeSum g m w := by
  induction m with
  | nil => rfl
  | cons p m ih =>
    rw [List.map_cons, stakeSum_cons, stakeSum_cons, ih fun q hq => hF q (List.mem_cons_of_mem _ hq)]
    by_cases h : p.1.2 = w
    · rw [if_pos h, if_pos h, hF p List.mem_cons_self h]
    · rw [if_neg h, if_neg h]

theorem le_stakeSum (g : Dec → Nat) {m : KMap (Addr × String) Shares} {sh : Shares} (h : get? m (d, v) = some sh) :
    g sh.stake ≤ stakeSum g m v := by
  induction m with
  | nil => cases h
  | cons p m ih =>
    rw [stakeSum_cons]
    rw [get?_cons] at h
    split at h
    · rename_i e
      cases h
      rw [e, if_pos rfl]; exact Nat.le_add_right _ _
    · exact Nat.le_trans (ih h) (Nat.le_add_left _ _)

theorem shareSum_scaleAll_other (stakes : KMap (Addr × String) Shares) (v : String) (l : List Addr) (rem : Dec)
    (w : String) (hw : w ≠ v) : shareSum (scaleAll stakes v l rem) w = shareSum stakes w :=
  stakeSum_mapVal (·.atomics) (·.atomics) stakes _ w
    (by intro p _ hp; dsimp only; rw [if_neg (fun x => hw (hp.symm.trans x.1))])

theorem shareSum_removeAll_other (m : KMap (Addr × String) Shares) (v w : String) (l : List Addr) (hw : w ≠ v) :
    shareSum (removeAll m v l) w = shareSum m w := by
  induction m with
  | nil => rfl
  | cons p m ih =>
    rw [removeAll_cons]
    by_cases e : p.1.2 = v ∧ p.1.1 ∈ l
    · have : ¬ p.1.2 = w := fun x => hw (x.symm.trans e.1)
      rw [if_pos e, ih, shareSum_cons, if_neg this, Nat.zero_add]
    · rw [if_neg e, shareSum_cons, shareSum_cons, ih]

theorem shareSum_removeAll_self (m : KMap (Addr × String) Shares) (v : String) (l : List Addr)
    (h : ∀ p ∈ m, p.1.2 = v → p.1.1 ∈ l) : shareSum (removeAll m v l) v = 0 := by
  induction m with
  | nil => rfl
  | cons p m ih =>
    have ih' := ih (fun q hq => h q (List.mem_cons_of_mem _ hq))
    have hp := h p List.mem_cons_self
    rw [removeAll_cons]
    by_cases e : p.1.2 = v
    · rw [if_pos ⟨e, hp e⟩, ih']
    · have : ¬ (p.1.2 = v ∧ p.1.1 ∈ l) := fun x => e x.1
      rw [if_neg this, shareSum_cons, if_neg e, ih']

theorem sumShares_eq_shareSum {m : KMap (Addr × String) Shares} {v : String} {l : List Addr}
    (h : ∀ p ∈ m, p.1.2 = v → p.1.1 ∈ l) : sumShares m v l = shareSum m v := by
  unfold sumShares shareSum
  rw [List.filter_congr fun p hp => decide_eq_decide.mpr ⟨And.left, fun e => ⟨e, h p hp e⟩⟩]

theorem shareSum_scaleAll_self (m : KMap (Addr × String) Shares) (v : String) (l : List Addr) (rem : Dec)
    (h : ∀ p ∈ m, p.1.2 = v → p.1.1 ∈ l) : shareSum (scaleAll m v l rem) v = scaledTotal m v rem :=
  stakeSum_mapVal (fun x => (Dec.mul x rem).atomics) (·.atomics) m _ v
    (by intro p hp e; dsimp only; rw [if_pos ⟨e, h p hp e⟩])

/-- the accumulator of `slash` is the scaled total -/
theorem sumShares_scaleAll (m : KMap (Addr × String) Shares) (v : String) (l : List Addr) (rem : Dec)
    (h : ∀ p ∈ m, p.1.2 = v → p.1.1 ∈ l) : sumShares (scaleAll m v l rem) v l = scaledTotal m v rem := by
  rw [← shareSum_scaleAll_self m v l rem h]
  refine sumShares_eq_shareSum fun p hp => ?_
  obtain ⟨q, hq, rfl⟩ := List.mem_map.mp hp
  exact h q hq

theorem scaledTotal_le_shareSum (m : KMap (Addr × String) Shares) (v : String) (rem : Dec) (hrem : rem.atomics ≤ Dec.ONE) :
    scaledTotal m v rem ≤ shareSum m v :=
  sum_map_le _ _ _ fun p _ => Dec.mul_le_left p.2.stake hrem

theorem scaledTotal_zero_rem (m : KMap (Addr × String) Shares) (v : String) (rem : Dec) (h : rem.atomics = 0) :
    scaledTotal m v rem = 0 := by
  induction m with
  | nil => rfl
  | cons p m ih => rw [scaledTotal_cons, ih]; simp [Dec.mul, h]

theorem shareSum_stakeSaved (s : SState) (d : Addr) (v : String) (sh' : Shares) (vi' : ValInfo) (w : String) :
    shareSum (stakeSaved s d v sh' vi').stakes w + (if v = w then (curShares s d v).stake.atomics else 0)
      ≤ shareSum s.stakes w + (if v = w then sh'.stake.atomics else 0) := by
  have hnew : shareSum (stakeSaved s d v sh' vi').stakes w =
      (if v = w then sh'.stake.atomics else 0) + shareSum (erase s.stakes (d, v)) w := by
    rw [stakeSaved_eq]
    by_cases hz : sh'.stake.isZero = true
    · have : sh'.stake.atomics = 0 := congrArg Dec.atomics (Dec.eq_zero_of_isZero hz)
      rw [if_pos hz, this, ite_self, Nat.zero_add]
    · rw [if_neg hz, shareSum_set]
  have hold : shareSum (erase s.stakes (d, v)) w + (if v = w then (curShares s d v).stake.atomics else 0)
      ≤ shareSum s.stakes w := by
    cases hg : get? s.stakes (d, v) with
    | none =>
      have := shareSum_erase s.stakes (d, v) w
      rw [hg] at this
      rw [curShares_of_none hg, show Shares.dflt.stake.atomics = 0 from rfl, ite_self]
      exact this
    | some sh => rw [curShares_of_get? hg]; exact shareSum_erase_get s.stakes (d, v) w sh hg
  rw [hnew, Nat.add_assoc, Nat.add_comm (shareSum s.stakes w)]
  exact Nat.add_le_add_left hold _

/-- what a successful `update_rewards` of validator `v` may have changed -/
structure UR (s : SState) (now : Nat) (v : String) (s' : SState) : Prop where
  info : s'.info = s.info
  validators : s'.validators = s.validators
  queue : s'.queue = s.queue
  withdraw : s'.withdraw = s.withdraw
  vinfo_other : ∀ w, w ≠ v → get? s'.vinfo w = get? s.vinfo w
  vinfo_self : ∃ vi, get? s.vinfo v = some vi ∧
      get? s'.vinfo v = some { vi with last := if vi.last ≥ now then vi.last else now }
  valid : ∃ vo, s.validator? v = some vo
  total : totalStake s'.vinfo ≤ totalStake s.vinfo
  stakes : ∀ k, ∃ F : Shares → Shares, get? s'.stakes k = (get? s.stakes k).map F ∧
      (∀ sh, (F sh).stake = sh.stake) ∧ (k.2 ≠ v → ∀ sh, F sh = sh)

theorem updateRewards_spec (h : updateRewards s now v = .ok s') : UR s now v s' := by
  obtain ⟨vi, vo, hvi, hvo, ⟨hge, rfl⟩ | ⟨hlt, nr, _, rfl⟩⟩ := updateRewards_ok h
  · exact ⟨rfl, rfl, rfl, rfl, fun _ _ => rfl, ⟨vi, hvi, by rw [if_pos hge]; exact hvi⟩, ⟨vo, hvo⟩, Nat.le_refl _,
      fun k => ⟨id, by cases get? s'.stakes k <;> rfl, fun _ => rfl, fun _ _ => rfl⟩⟩
  · refine ⟨rfl, rfl, rfl, rfl, fun w hw => get?_set_ne _ _ hw, ⟨vi, hvi, by rw [if_neg hlt]; exact get?_set_self _ _ _⟩,
      ⟨vo, hvo⟩, ?_, fun k => ⟨_, get?_creditAll _ v vi nr k, ?_, ?_⟩⟩
    · exact Nat.le_of_add_le_add_right (totalStake_set s.vinfo v vi { vi with last := now } hvi)
    · intro sh; split <;> rfl
    · intro hk sh; exact if_neg fun x => hk x.1

theorem UR.stakes_other (ur : UR s now v s') {k : Addr × String} (hk : k.2 ≠ v) :
    get? s'.stakes k = get? s.stakes k := by
  obtain ⟨F, hF, _, hid⟩ := ur.stakes k
  rw [hF]; cases get? s.stakes k <;> simp [hid hk]

theorem UR.stakeOf_eq (ur : UR s now v s') (d : Addr) (w : String) : stakeOf s' d w = stakeOf s d w := by
  obtain ⟨F, hF, hs, _⟩ := ur.stakes (d, w)
  cases hg : get? s.stakes (d, w) with
  | none => rw [hg] at hF; rw [stakeOf_of_none hF, stakeOf_of_none hg]
  | some sh => rw [hg] at hF; rw [stakeOf_of_get? hF, stakeOf_of_get? hg, hs]

/-- `UR.stakes` is per key; sums need the list -/
theorem stakeSum_updateRewards (h : updateRewards s now v = .ok s') (g : Dec → Nat) (w : String) :
    stakeSum g s'.stakes w = stakeSum g s.stakes w := by
  obtain ⟨vi, vo, _, _, ⟨_, rfl⟩ | ⟨_, nr, _, rfl⟩⟩ := updateRewards_ok h
  · rfl
  · exact stakeSum_mapVal g g _ _ w (by intro p _ _; dsimp only; split <;> rfl)

/-- the storage part of the invariant: staker sets in step with the records (I1, I2), commissions at most 1 -/
structure SInv (s : SState) : Prop where
  stakers_have : ∀ v vi d, get? s.vinfo v = some vi → d ∈ vi.stakers → (get? s.stakes (d, v)).isSome
  stakes_listed : ∀ d v sh, get? s.stakes (d, v) = some sh → ∃ vi, get? s.vinfo v = some vi ∧ d ∈ vi.stakers
  comm_le : ∀ vo ∈ s.validators, vo.commission.atomics ≤ Dec.ONE

theorem SInv.mem_stakers (hi : SInv s) {sh : Shares} (hsh : get? s.stakes (d, v) = some sh)
    (hv : get? s.vinfo v = some vi) : d ∈ vi.stakers := by
  obtain ⟨vi2, hv2, hd⟩ := hi.stakes_listed d v sh hsh
  cases hv.symm.trans hv2
  exact hd

theorem SInv.owners_listed (hi : SInv s) (hv : get? s.vinfo v = some vi) :
    ∀ p ∈ s.stakes, p.1.2 = v → p.1.1 ∈ vi.stakers := by
  intro p hp hpv
  obtain ⟨sh, hg⟩ := Option.isSome_iff_exists.mp (isSome_get?_of_mem hp)
  exact hi.mem_stakers (v := v) (by rw [← hpv]; exact hg) hv

def stakersOf (s : SState) (v : String) : List Addr := ((get? s.vinfo v).map (·.stakers)).getD []

theorem mem_stakersOf : d ∈ stakersOf s v ↔ ∃ vi, get? s.vinfo v = some vi ∧ d ∈ vi.stakers := by
  unfold stakersOf
  cases get? s.vinfo v <;> simp

theorem stakersOf_of_get? (h : get? s.vinfo v = some vi) : stakersOf s v = vi.stakers := by
  rw [stakersOf, h]; rfl

/-- I1 and I2 together: the records of `v` are exactly those of its stakers. A step keeps them when it changes both
sides of this equivalence alike. -/
theorem SInv_iff : SInv s ↔
    (∀ d v, (get? s.stakes (d, v)).isSome ↔ d ∈ stakersOf s v) ∧ ∀ vo ∈ s.validators, vo.commission.atomics ≤ Dec.ONE := by
  simp only [mem_stakersOf]
  constructor
  · refine fun hi => ⟨fun d v => ⟨fun h => ?_, fun h => ?_⟩, hi.comm_le⟩
    · obtain ⟨sh, hsh⟩ := Option.isSome_iff_exists.mp h
      exact hi.stakes_listed d v sh hsh
    · obtain ⟨vi, hv, hd⟩ := h
      exact hi.stakers_have v vi d hv hd
  · intro h
    exact ⟨fun v vi d hv hd => (h.1 d v).mpr ⟨vi, hv, hd⟩, fun d v sh hsh => (h.1 d v).mp (by rw [hsh]; rfl), h.2⟩

/-- I1/I2 only depend on which records exist and on the staker sets. For `{ s with queue := q }` and the like all three hold
by `rfl`: `SInv` is a structure, so unlike `TInv` and `LastLe` it does not unfold to a statement about the fields it reads. -/
theorem SInv.of_same_shape (hi : SInv s)
    (hk : ∀ k, (get? s'.stakes k).isSome = (get? s.stakes k).isSome)
    (hv : ∀ w, (get? s'.vinfo w).map (·.stakers) = (get? s.vinfo w).map (·.stakers))
    (hval : s'.validators = s.validators) : SInv s' := by
  rw [SInv_iff] at hi ⊢
  refine ⟨fun d v => ?_, hval ▸ hi.2⟩
  rw [hk, stakersOf, hv]; exact hi.1 d v

theorem SInv_updateRewards (hi : SInv s) (h : UR s now v s') : SInv s' := by
  refine hi.of_same_shape (fun k => ?_) (fun w => ?_) h.validators
  · obtain ⟨F, hF, _⟩ := h.stakes k
    rw [hF]; cases get? s.stakes k <;> rfl
  · by_cases e : w = v
    · obtain ⟨vi, hvi, hvi'⟩ := h.vinfo_self
      rw [e, hvi, hvi']; rfl
    · rw [h.vinfo_other w e]

theorem SInv_set_rewards (hi : SInv s) (k : Addr × String) (sh : Shares) (r : Dec)
    (h : get? s.stakes k = some sh) : SInv { s with stakes := KMap.set s.stakes k { sh with rewards := r } } := by
  refine hi.of_same_shape (fun k2 => ?_) (fun w => rfl) rfl
  rw [get?_set]
  split
  · rename_i e; rw [e, h]; rfl
  · rfl

/-- saving a changed record of `(d, v)` together with the matching staker-set update keeps I1/I2: `d` is a staker of `v`
afterwards iff its record stays -/
theorem SInv_stakeSaved (hi : SInv s) (d : Addr) (v : String) (sh' : Shares) (vi0 vi' : ValInfo)
    (hv : get? s.vinfo v = some vi0) (hst : vi'.stakers = vi0.stakers) : SInv (stakeSaved s d v sh' vi') := by
  rw [SInv_iff] at hi ⊢
  refine ⟨fun d2 w => ?_, by rw [stakeSaved_eq]; exact hi.2⟩
  rw [get?_stakeSaved_stakes, stakersOf, get?_stakeSaved_vinfo]
  by_cases e : w = v
  · subst e
    have := hi.1 d2 w
    rw [stakersOf_of_get? hv] at this
    by_cases e2 : d2 = d <;> by_cases hz : sh'.stake.isZero = true <;>
      simp [e2, hz, mem_setErase, mem_setInsert, hst, this]
  · rw [if_neg e, if_neg (fun x => e (Prod.mk.inj x).2)]; exact hi.1 d2 w

theorem SInv_applyStake {s s' : SState} {now : Nat} {d : Addr} {v : String} {amount : Nat} {sub : Bool}
    (hi : SInv s) (vi0 : ValInfo) (hv : get? s.vinfo v = some vi0)
    (h : applyStake s now d v amount sub = .ok s') : SInv s' := by
  rw [(applyStake_ok h).2, viOf_of_get? hv]
  exact SInv_stakeSaved hi d v _ vi0 _ hv rfl

/-- under I1 the `expect` of `slash` (staking.rs:509) cannot fire, and under I2 its accumulator is the scaled total -/
theorem applySlash_eq (hi : SInv s) (hv : get? s.vinfo v = some vi) (rem : Dec) :
    applySlash s v vi rem = .ok
      (if scaledTotal s.stakes v rem / Dec.ONE = 0 then
        { s with stakes := removeAll s.stakes v vi.stakers, queue := slashQueue s.queue v rem,
                 vinfo := KMap.set s.vinfo v { vi with stake := 0, stakers := [] } }
      else
        { s with stakes := scaleAll s.stakes v vi.stakers rem, queue := slashQueue s.queue v rem,
                 vinfo := KMap.set s.vinfo v { vi with stake := scaledTotal s.stakes v rem / Dec.ONE } }) := by
  have hall : allStakersExist s.stakes v vi.stakers = true :=
    List.all_eq_true.mpr fun d hd => hi.stakers_have v vi d hv hd
  rw [applySlash, if_pos hall, sumShares_scaleAll _ _ _ _ (hi.owners_listed hv)]
  exact (apply_ite Outcome.ok _ _ _).symm

theorem applySlash_ok (hi : SInv s) (hv : get? s.vinfo v = some vi) (h : applySlash s v vi rem = .ok s') :
    ∃ stakes' vi',
      s' = { s with stakes := stakes', queue := slashQueue s.queue v rem, vinfo := KMap.set s.vinfo v vi' } ∧
      (scaledTotal s.stakes v rem / Dec.ONE = 0 ∧
        stakes' = removeAll s.stakes v vi.stakers ∧ vi' = { vi with stake := 0, stakers := [] } ∨
       scaledTotal s.stakes v rem / Dec.ONE ≠ 0 ∧
        stakes' = scaleAll s.stakes v vi.stakers rem ∧ vi' = { vi with stake := scaledTotal s.stakes v rem / Dec.ONE }) := by
  rw [applySlash_eq hi hv] at h
  by_cases hz : scaledTotal s.stakes v rem / Dec.ONE = 0
  · rw [if_pos hz] at h; cases h; exact ⟨_, _, rfl, .inl ⟨hz, rfl, rfl⟩⟩
  · rw [if_neg hz] at h; cases h; exact ⟨_, _, rfl, .inr ⟨hz, rfl, rfl⟩⟩

theorem applySlash_stakes_other (hi : SInv s) (hv : get? s.vinfo v = some vi) (h : applySlash s v vi rem = .ok s')
    {k : Addr × String} (hk : k.2 ≠ v) : get? s'.stakes k = get? s.stakes k := by
  obtain ⟨_, _, rfl, ⟨_, rfl, _⟩ | ⟨_, rfl, _⟩⟩ := applySlash_ok hi hv h
  · exact (get?_removeAll _ _ _ _).trans (if_neg fun x => hk x.1)
  · rw [get?_scaleAll]
    cases get? s.stakes k <;> simp [hk]

theorem SInv_applySlash (hi : SInv s) (hv : get? s.vinfo v = some vi) (h : applySlash s v vi rem = .ok s') :
    SInv s' := by
  obtain ⟨_, _, rfl, ⟨_, rfl, rfl⟩ | ⟨_, rfl, rfl⟩⟩ := applySlash_ok hi hv h
  · rw [SInv_iff] at hi ⊢
    refine ⟨fun d w => ?_, hi.2⟩
    have := hi.1 d w
    simp only [get?_removeAll, stakersOf, get?_set]
    by_cases e : w = v
    · subst e
      rw [stakersOf_of_get? hv] at this
      by_cases hd : d ∈ vi.stakers
      · simp [hd]
      · simpa [hd] using mt this.mp hd
    · simpa [e, stakersOf] using this
  · refine hi.of_same_shape (fun k => ?_) (fun w => ?_) rfl
    · rw [get?_scaleAll]; cases get? s.stakes k <;> rfl
    · rw [get?_set]
      split
      · rename_i e; rw [e, hv]; rfl
      · rfl

def LastLe (s : SState) (now : Nat) : Prop := ∀ w vi, get? s.vinfo w = some vi → vi.last ≤ now

theorem LastLe_set (hl : LastLe s now) (v : String) {vi' : ValInfo} (h : vi'.last ≤ now) :
    ∀ w vi, get? (KMap.set s.vinfo v vi') w = some vi → vi.last ≤ now := by
  intro w vi hw
  rw [get?_set] at hw
  split at hw
  · cases hw; exact h
  · exact hl w vi hw

theorem LastLe_updateRewards (hl : LastLe s now) (h : UR s now v s') : LastLe s' now := by
  obtain ⟨vi, hvi, hvi1⟩ := h.vinfo_self
  intro w vi' hw
  by_cases e : w = v
  · subst e
    cases hvi1.symm.trans hw
    show (if vi.last ≥ now then vi.last else now) ≤ now
    split
    · exact hl w vi hvi
    · exact Nat.le_refl now
  · rw [h.vinfo_other w e] at hw; exact hl w vi' hw

theorem LastLe_stakeSaved (hl : LastLe s now) (d : Addr) (v : String) (sh' : Shares)
    (vi' : ValInfo) (h : vi'.last ≤ now) : LastLe (stakeSaved s d v sh' vi') now := by
  unfold LastLe; rw [stakeSaved_eq]; exact LastLe_set hl v h

theorem LastLe_applySlash (hi : SInv s) (hl : LastLe s now) (hv : get? s.vinfo v = some vi)
    (h : applySlash s v vi rem = .ok s') : LastLe s' now := by
  obtain ⟨_, _, rfl, ⟨_, _, rfl⟩ | ⟨_, _, rfl⟩⟩ := applySlash_ok hi hv h <;> exact LastLe_set hl v (hl v vi hv)

/-- saving a validator total that moved by `+ b − a`, written without subtraction -/
theorem totalStake_stakeSaved (s : SState) (d : Addr) (v : String) (sh' : Shares) (vi0 vi' : ValInfo)
    (hv : get? s.vinfo v = some vi0) (a b : Nat) (h : vi'.stake + a ≤ vi0.stake + b) :
    totalStake (stakeSaved s d v sh' vi').vinfo + a ≤ totalStake s.vinfo + b := by
  rw [stakeSaved_eq]
  exact sum_exchange (totalStake_set s.vinfo v vi0
    { vi' with stakers := if sh'.stake.isZero then setErase vi'.stakers d else setInsert vi'.stakers d } hv) h

/-- I5: the validator total never falls below the whole tokens of the sum of the shares of its records -/
def TInv (s : SState) : Prop := ∀ v vi, get? s.vinfo v = some vi → shareSum s.stakes v / Dec.ONE ≤ vi.stake

theorem TInv_updateRewards (ht : TInv s) (h : updateRewards s now v = .ok s') : TInv s' := by
  have ur := updateRewards_spec h
  obtain ⟨vi, hvi, hvi1⟩ := ur.vinfo_self
  intro w vi2 hw
  rw [show shareSum s'.stakes w = shareSum s.stakes w from stakeSum_updateRewards h (·.atomics) w]
  by_cases e : w = v
  · subst e
    cases hvi1.symm.trans hw
    exact ht w vi hvi
  · rw [ur.vinfo_other w e] at hw; exact ht w vi2 hw

theorem TInv_set_rewards (ht : TInv s) (k : Addr × String) (sh : Shares) (r : Dec)
    (h : get? s.stakes k = some sh) : TInv { s with stakes := KMap.set s.stakes k { sh with rewards := r } } := by
  intro w vi hw
  have h1 := shareSum_erase_get s.stakes k w sh h
  have h2 : shareSum (KMap.set s.stakes k { sh with rewards := r }) w ≤ shareSum s.stakes w := by
    rw [shareSum_set, Nat.add_comm]; exact h1
  exact Nat.le_trans (Nat.div_le_div_right h2) (ht w vi hw)

/-- `TInv` after a step that writes the info of one validator `v`: the shares of the other validators may only have
shrunk, and the new total of `v` has to cover its new shares -/
theorem TInv_set (ht : TInv s) {stakes' : KMap (Addr × String) Shares} (v : String) {vi' : ValInfo}
    (hother : ∀ w, w ≠ v → shareSum stakes' w ≤ shareSum s.stakes w)
    (hself : shareSum stakes' v / Dec.ONE ≤ vi'.stake) :
    ∀ w vi, get? (KMap.set s.vinfo v vi') w = some vi → shareSum stakes' w / Dec.ONE ≤ vi.stake := by
  intro w vi hw
  rw [get?_set] at hw
  split at hw
  · rename_i e; cases hw; exact e ▸ hself
  · rename_i e; exact Nat.le_trans (Nat.div_le_div_right (hother w e)) (ht w vi hw)

theorem TInv_stakeSaved (ht : TInv s) (d : Addr) (v : String) (sh' : Shares) (vi0 vi' : ValInfo)
    (hv : get? s.vinfo v = some vi0) (a b : Nat)
    (hsh : sh'.stake.atomics + Dec.ONE * a ≤ (curShares s d v).stake.atomics + Dec.ONE * b)
    (hvs : vi0.stake + b ≤ vi'.stake + a) : TInv (stakeSaved s d v sh' vi') := by
  have hs := shareSum_stakeSaved s d v sh' vi'
  unfold TInv
  rw [stakeSaved_eq] at hs ⊢
  refine TInv_set ht v (fun w e => ?_) ?_
  · have := hs w
    rwa [if_neg (Ne.symm e), if_neg (Ne.symm e)] at this
  · have := hs v
    rw [if_pos rfl, if_pos rfl] at this
    exact total_covers_after Dec.ONE_pos this hsh (ht v vi0 hv) hvs

theorem TInv_applyStake {amount : Nat} {sub : Bool} (ht : TInv s) (vi0 : ValInfo) (hv : get? s.vinfo v = some vi0)
    (h : applyStake s now d v amount sub = .ok s') : TInv s' := by
  obtain ⟨hsub, rfl⟩ := applyStake_ok h
  rw [viOf_of_get? hv] at hsub ⊢
  cases sub with
  | false => exact TInv_stakeSaved ht d v _ vi0 _ hv 0 amount (Nat.le_refl _) (Nat.le_refl _)
  | true =>
    obtain ⟨_, h2, h3⟩ := hsub rfl
    have h2 : Dec.ONE * amount ≤ (curShares s d v).stake.atomics := h2
    refine TInv_stakeSaved ht d v _ vi0 _ hv amount 0 ?_ ?_
    · show (curShares s d v).stake.atomics - Dec.ONE * amount + Dec.ONE * amount ≤ _
      exact Nat.le_of_eq (Nat.sub_add_cancel h2)
    · show vi0.stake + 0 ≤ vi0.stake - amount + amount
      exact Nat.le_of_eq (Nat.sub_add_cancel h3).symm

/-- under I2 `dropIfEmpty` does nothing, or saves an empty record for a pair that shows 0 through `stakeSaved` -/
theorem dropIfEmpty_cases (hi : SInv s) (u : Unbonding) (rest : List Unbonding) :
    dropIfEmpty s u rest = s ∨ ∃ sh vi, get? s.stakes (u.delegator, u.validator) = some sh ∧ sh.stake.floor = 0 ∧
      get? s.vinfo u.validator = some vi ∧
      dropIfEmpty s u rest = stakeSaved s u.delegator u.validator Shares.dflt vi := by
  unfold dropIfEmpty
  cases hsh : get? s.stakes (u.delegator, u.validator) with
  | none => exact Or.inl rfl
  | some sh =>
    dsimp only
    by_cases hz : sh.stake.floor + pendingFor rest u.delegator u.validator = 0
    · obtain ⟨vi, hv, _⟩ := hi.stakes_listed _ _ sh hsh
      rw [if_pos hz]
      exact Or.inr ⟨sh, vi, rfl, (Nat.add_eq_zero_iff.mp hz).1, hv, by rw [eraseStaker, hv]; exact (if_pos rfl).symm⟩
    · rw [if_neg hz]; exact Or.inl rfl

structure DropEffect (s s' : SState) : Prop where
  sinv : SInv s'
  tinv : TInv s → TInv s'
  lastle : ∀ now, LastLe s now → LastLe s' now
  total : totalStake s'.vinfo ≤ totalStake s.vinfo
  info : s'.info = s.info
  validators : s'.validators = s.validators
  shown : ∀ d v, (stakeOf s' d v).floor = (stakeOf s d v).floor
  kept : ∀ d v sh, get? s.stakes (d, v) = some sh → 1 ≤ sh.stake.floor → get? s'.stakes (d, v) = some sh

theorem dropIfEmpty_effect (hi : SInv s) (u : Unbonding) (rest : List Unbonding) :
    DropEffect s (dropIfEmpty s u rest) := by
  rcases dropIfEmpty_cases hi u rest with h | ⟨sh0, vi, hsh0, hz, hv, h⟩ <;> rw [h]
  · exact ⟨hi, id, fun _ => id, Nat.le_refl _, rfl, rfl, fun _ _ => rfl, fun _ _ _ h _ => h⟩
  -- an empty record in place of one that shows 0, under the same validator total
  refine ⟨SInv_stakeSaved hi _ _ _ vi vi hv rfl,
    fun ht => TInv_stakeSaved ht _ _ _ vi vi hv 0 0 (Nat.zero_le _) (Nat.le_refl _),
    fun now hl => LastLe_stakeSaved hl _ _ _ vi (hl _ vi hv),
    totalStake_stakeSaved s u.delegator u.validator Shares.dflt vi vi hv 0 0 (Nat.le_refl _),
    by rw [stakeSaved_eq], by rw [stakeSaved_eq], fun d v => ?_, fun d v sh hsh hpos => ?_⟩
  · by_cases e : (d, v) = (u.delegator, u.validator)
    · obtain ⟨rfl, rfl⟩ := Prod.mk.inj e
      rw [stakeOf_stakeSaved, stakeOf_of_get? hsh0, hz]; rfl
    · exact congrArg Dec.floor (stakeOf_congr (by rw [get?_stakeSaved_stakes, if_neg e]))
  · rw [get?_stakeSaved_stakes, if_neg]
    · exact hsh
    · intro e; rw [e, hsh0] at hsh; cases hsh; rw [hz] at hpos; cases hpos

theorem TInv_applySlash (hi : SInv s) (ht : TInv s) (hv : get? s.vinfo v = some vi)
    (h : applySlash s v vi rem = .ok s') : TInv s' := by
  have hown := hi.owners_listed hv
  obtain ⟨_, _, rfl, ⟨_, rfl, rfl⟩ | ⟨_, rfl, rfl⟩⟩ := applySlash_ok hi hv h
  · exact TInv_set ht v (fun w e => Nat.le_of_eq (shareSum_removeAll_other _ _ _ _ e))
      (by rw [shareSum_removeAll_self _ _ _ hown]; exact Nat.zero_le _)
  · exact TInv_set ht v (fun w e => Nat.le_of_eq (shareSum_scaleAll_other _ _ _ _ _ e))
      (Nat.le_of_eq (congrArg (· / Dec.ONE) (shareSum_scaleAll_self _ _ _ _ hown)))

theorem totalStake_applySlash (hi : SInv s) (ht : TInv s) (hv : get? s.vinfo v = some vi)
    (hrem : rem.atomics ≤ Dec.ONE) (h : applySlash s v vi rem = .ok s') : totalStake s'.vinfo ≤ totalStake s.vinfo := by
  obtain ⟨_, vi', rfl, hc⟩ := applySlash_ok hi hv h
  have hle : vi'.stake ≤ vi.stake := by
    rcases hc with ⟨_, _, rfl⟩ | ⟨_, _, rfl⟩
    · exact Nat.zero_le _
    · exact Nat.le_trans (Nat.div_le_div_right (scaledTotal_le_shareSum _ _ _ hrem)) (ht v vi hv)
  exact Nat.le_of_add_le_add_right (Nat.le_trans (totalStake_set s.vinfo v vi vi' hv) (Nat.add_le_add_left hle _))

/-- so a shown delegation means a positive total (`Ev.ok.1`) -/
theorem TInv.floor_le_total (ht : TInv s) {sh : Shares}
    (hs : get? s.stakes (d, v) = some sh) (hv : get? s.vinfo v = some vi) : sh.stake.floor ≤ vi.stake :=
  Nat.le_trans (Nat.div_le_div_right (le_stakeSum (·.atomics) hs)) (ht v vi hv)

/-- `hsa` of `Arith.ratio_le_two` -/
theorem TInv.share_lt_total_succ (ht : TInv s) {sh : Shares}
    (hs : get? s.stakes (d, v) = some sh) (hv : get? s.vinfo v = some vi) :
    sh.stake.atomics < Dec.ONE * (vi.stake + 1) :=
  calc sh.stake.atomics ≤ shareSum s.stakes v := le_stakeSum (·.atomics) hs
    _ < Dec.ONE * (shareSum s.stakes v / Dec.ONE + 1) := Nat.lt_mul_div_succ _ Dec.ONE_pos
    _ ≤ Dec.ONE * (vi.stake + 1) := Nat.mul_le_mul_left _ (Nat.succ_le_succ (ht v vi hv))

structure USpec (s : SState) (now : Nat) (amount : Nat) (sub : Bool) (s' : SState) : Prop where
  sinv : SInv s → SInv s'
  info : s'.info = s.info
  validators : s'.validators = s.validators
  queue : s'.queue = s.queue
  withdraw : s'.withdraw = s.withdraw
  total_add : sub = false → totalStake s'.vinfo ≤ totalStake s.vinfo + amount
  total_sub : sub = true → totalStake s'.vinfo + amount ≤ totalStake s.vinfo
  lastle : LastLe s now → LastLe s' now

theorem applyStake_spec {amount : Nat} {sub : Bool} (vi0 : ValInfo) (hv : get? s.vinfo v = some vi0)
    (h : applyStake s now d v amount sub = .ok s') : USpec s now amount sub s' := by
  have hs := fun hi : SInv s => SInv_applyStake hi vi0 hv h
  cases viOf_of_get? (now := now) hv  -- replaces `vi0` by `viOf s now v` everywhere
  obtain ⟨hsub, rfl⟩ := applyStake_ok h
  refine ⟨hs, by rw [stakeSaved_eq], by rw [stakeSaved_eq], by rw [stakeSaved_eq], by rw [stakeSaved_eq], ?_, ?_,
    fun hl => LastLe_stakeSaved hl d v _ _ (hl v (viOf s now v) hv)⟩
  · rintro rfl
    -- `a = 0`: the `+ 0` is written out so that the lemma matches as it stands (left to unification the match is slow)
    exact Nat.le_trans (Nat.le_add_right _ 0) (totalStake_stakeSaved s d v _ _ _ hv 0 amount (Nat.le_refl _))
  · rintro rfl
    exact totalStake_stakeSaved s d v _ _ _ hv amount 0 (Nat.le_of_eq (Nat.sub_add_cancel (hsub rfl).2.2))

theorem updateStake_spec {amount : Nat} {sub : Bool} (h : updateStake s now d v amount sub = .ok s') :
    USpec s now amount sub s' := by
  obtain ⟨s1, h1, h2⟩ := updateStake_ok_iff.mp h
  have ur := updateRewards_spec h1
  obtain ⟨_, _, hvi1⟩ := ur.vinfo_self
  have sp := applyStake_spec _ hvi1 h2
  have := ur.total
  exact ⟨fun hi => sp.sinv (SInv_updateRewards hi ur), sp.info.trans ur.info, sp.validators.trans ur.validators,
    sp.queue.trans ur.queue, sp.withdraw.trans ur.withdraw, fun e => Nat.le_trans (sp.total_add e) (Nat.add_le_add_right this _),
    fun e => Nat.le_trans (sp.total_sub e) this, fun hl => sp.lastle (LastLe_updateRewards hl ur)⟩

theorem TInv_updateStake {amount : Nat} {sub : Bool} (ht : TInv s)
    (h : updateStake s now d v amount sub = .ok s') : TInv s' := by
  obtain ⟨s1, h1, h2⟩ := updateStake_ok_iff.mp h
  obtain ⟨_, _, hvi1⟩ := (updateRewards_spec h1).vinfo_self
  exact TInv_applyStake (TInv_updateRewards ht h1) _ hvi1 h2

/-- no panic site of `update_rewards` is reachable: the `expect` (staking.rs:336) needs a staker without record, the
`reward - commission` underflow a commission above 1, and `minus_seconds` underflows only for a `now` before `last`,
which has returned early. The call fails only for an unknown validator. -/
theorem updateRewards_succeeds (hi : SInv s) (now : Nat) {vo : Validator}
    (hv : get? s.vinfo v = some vi) (hvo : s.validator? v = some vo) : ∃ s1, updateRewards s now v = .ok s1 := by
  rw [updateRewards_eq, hv, hvo]
  dsimp only [Option.elim]
  by_cases hge : vi.last ≥ now
  · exact ⟨_, if_pos hge⟩
  · rw [if_neg hge, calcRewards_eq now vi.last _ _ _ (Nat.le_of_not_le hge) (hi.comm_le vo (List.mem_of_find?_eq_some hvo))]
    exact ⟨_, if_pos (Or.inr (List.all_eq_true.mpr fun d hd => hi.stakers_have v vi d hv hd))⟩

theorem updateStake_sub_succeeds {amount : Nat} {vo : Validator} (hi : SInv s) (ht : TInv s) (now : Nat)
    (hvo : s.validator? v = some vo) (hnz : amount ≠ 0) (hle : Dec.ofNat amount ≤ stakeOf s d v) :
    ∃ s', updateStake s now d v amount true = .ok s' := by
  -- a positive amount within the delegation: the delegation is shown, so it has a record and its validator an info
  have hfl : amount ≤ (stakeOf s d v).floor :=
    (Nat.le_div_iff_mul_le Dec.ONE_pos).mpr (by rw [Nat.mul_comm]; exact hle)
  obtain ⟨sh, hsh⟩ := get?_of_shown (Nat.le_trans (Nat.pos_of_ne_zero hnz) hfl)
  obtain ⟨vi, hvi, _⟩ := hi.stakes_listed d v sh hsh
  obtain ⟨s1, h1⟩ := updateRewards_succeeds hi now hvi hvo
  have ur := updateRewards_spec h1
  obtain ⟨_, _, hvi1⟩ := ur.vinfo_self
  -- crediting keeps the stake, and I5 holds afterwards: the validator total covers the whole tokens of the record
  rw [← ur.stakeOf_eq] at hle hfl
  obtain ⟨sh1, hsh1⟩ := get?_of_shown (Nat.le_trans (Nat.pos_of_ne_zero hnz) hfl)
  rw [stakeOf_of_get? hsh1] at hle hfl
  have htot := (TInv_updateRewards ht h1).floor_le_total hsh1 hvi1
  obtain ⟨st, h2⟩ : ∃ st, applyStake s1 now d v amount true = .ok st := by
    rw [applyStake_eq, if_pos]
    · exact ⟨_, rfl⟩
    · intro _
      rw [curShares_of_get? hsh1, viOf_of_get? hvi1]
      exact ⟨by rw [hsh1]; rfl, hle, Nat.le_trans hfl htot⟩
  exact ⟨st, updateStake_ok_iff.mpr ⟨s1, h1, h2⟩⟩

theorem updateRewards_safe (hi : SInv s) (now : Nat) (v : String) : Safe (updateRewards s now v) := by
  cases hv : get? s.vinfo v with
  | none => rw [updateRewards_eq, hv]; exact safe_err
  | some vi =>
    cases hvo : s.validator? v with
    | none => rw [updateRewards_eq, hv, hvo]; exact safe_err
    | some vo =>
      obtain ⟨s1, h⟩ := updateRewards_succeeds hi now hv hvo
      rw [h]; exact safe_ok s1

theorem updateStake_safe (hi : SInv s) (now : Nat) (d : Addr) (v : String) (amount : Nat) (sub : Bool) :
    Safe (updateStake s now d v amount sub) := by
  rw [updateStake_eq]
  exact (updateRewards_safe hi now v).bind fun s1 _ => applyStake_safe s1 now d v amount sub

theorem addStake_safe (hi : SInv s) (now : Nat) (d : Addr) (v : String) (coin : Coin) :
    Safe (addStake s now d v coin) := by
  rw [addStake_eq]
  exact safe_ite (fun _ => updateStake_safe hi now d v coin.amount false) fun _ => safe_err

theorem removeStake_safe (hi : SInv s) (now : Nat) (d : Addr) (v : String) (coin : Coin) :
    Safe (removeStake s now d v coin) := by
  rw [removeStake_eq]
  exact safe_ite (fun _ => updateStake_safe hi now d v coin.amount true) fun _ => safe_err

theorem slash_safe (hi : SInv s) (now : Nat) (v : String) (p : Dec) : Safe (slash s now v p) := by
  rw [slash_eq]
  refine (updateRewards_safe hi now v).bind fun s1 h1 => ?_
  have ur := updateRewards_spec h1
  obtain ⟨_, _, hvi1⟩ := ur.vinfo_self
  rw [hvi1, Option.elim, applySlash_eq (SInv_updateRewards hi ur) hvi1]
  exact safe_ok _

theorem delegate_safe (cfg : Cfg) {c : Chain} (hi : SInv c.st) (a : Addr) (v : String) (coin : Coin) :
    Safe (delegate cfg c a v coin) := by
  rw [delegate_eq]
  exact safe_ite (fun _ => safe_err) fun _ =>
    (addStake_safe hi c.time a v coin).bind fun _ _ => safe_elim fun _ _ => safe_ok _

theorem undelegate_safe {c : Chain} (hi : SInv c.st) (a : Addr) (v : String) (coin : Coin) :
    Safe (undelegate c a v coin) := by
  rw [undelegate_eq]
  exact safe_ite (fun _ => (updateStake_safe hi c.time a v coin.amount true).bind fun _ _ => safe_ok _) fun _ => safe_err

theorem redelegate_safe {c : Chain} (hi : SInv c.st) (a : Addr) (v1 v2 : String) (coin : Coin) :
    Safe (redelegate c a v1 v2 coin) := by
  rw [redelegate_eq]
  exact (removeStake_safe hi c.time a v1 coin).bind fun st1 h1 =>
    (addStake_safe ((updateStake_spec (removeStake_ok_iff.mp h1).2).sinv hi) c.time a v2 coin).bind fun _ _ => safe_ok _

theorem withdrawRewards_safe (cfg : Cfg) {c : Chain} (hi : SInv c.st) (a : Addr) (v : String) :
    Safe (withdrawRewards cfg c a v) := by
  rw [withdrawRewards_eq]
  exact (updateRewards_safe hi c.time v).bind fun _ _ => safe_elim fun _ _ =>
    safe_ite (fun _ => safe_err) fun _ => safe_elim fun _ _ => safe_ok _

theorem setWithdraw_safe (cfg : Cfg) (c : Chain) (a b : Addr) : Safe (setWithdraw cfg c a b) := by
  rw [setWithdraw_eq]
  exact safe_ite (fun _ => safe_ok _) fun _ => safe_err

theorem sudoSlash_safe {c : Chain} (hi : SInv c.st) (v : String) (p : Dec) : Safe (sudoSlash c v p) := by
  rw [sudoSlash_eq]
  exact safe_ite (fun _ => safe_err) fun _ => (slash_safe hi c.time v p).bind fun _ _ => safe_ok _

end Staking
end CwMt
