import CwMt.Model.Json
import CwMt.Proofs.Layout
/-
  CwMt.Proofs.Json — parse ∘ print = id for the JSON text of the bank's and the wasm module's records
  (CwMt/Model/Json.lean): one lemma `parseX (printX x ++ rest) = some (x, rest)` per printer, for every `rest` (after a
  number: every `rest` that does not go on with a digit), so that the lemma of a printer follows from those of its parts;
  a printer with such a parser is injective (`inj_of_parse`).
-/
namespace CwMt.Json

theorem unhexUpper_hexUpper : ∀ n < 16, unhexUpper (hexUpper n) = some n := by decide

theorem expect_append (p r : List Char) : expect p (p ++ r) = some r := by
  induction p with
  | nil => cases r <;> rfl
  | cons a p ih => simp [expect, ih]

/-- the `if` chain of `escapeChar` is gone through arm by arm (`split` on the whole chain is exponential in its depth).
`parseStrBody.eq_k` is the k-th clause of `parseStrBody` as CwMt/Model/Json.lean lists them (a clause inserted there
renumbers them): `eq_3` … `eq_9` the two-character escapes, `eq_10` the `\u00` clause, `eq_12` the catch-all, whose side
conditions (the character is neither `"` nor `\`) are what `intros; contradiction` discharges. -/
theorem parseStrBody_escapeChar (c : Char) (tail : List Char) :
    parseStrBody (escapeChar c ++ tail) = (parseStrBody tail).map fun p => (c :: p.1, p.2) := by
  -- one arm of the chain: the text `a` written for the character `x` reads back as `x`; the rest goes on knowing `c ≠ x`
  have arm {x : Char} {a b : List Char} (hx : parseStrBody (a ++ tail) = (parseStrBody tail).map fun p => (x :: p.1, p.2))
      (hb : c ≠ x → parseStrBody (b ++ tail) = (parseStrBody tail).map fun p => (c :: p.1, p.2)) :
      parseStrBody ((if c = x then a else b) ++ tail) = (parseStrBody tail).map fun p => (c :: p.1, p.2) := by
    split
    · next e => rw [e]; exact hx
    · next e => exact hb e
  rw [escapeChar]
  refine arm (parseStrBody.eq_3 tail) fun h1 => arm (parseStrBody.eq_4 tail) fun h2 => arm (parseStrBody.eq_5 tail) fun _ =>
    arm (parseStrBody.eq_6 tail) fun _ => arm (parseStrBody.eq_7 tail) fun _ => arm (parseStrBody.eq_8 tail) fun _ =>
    arm (parseStrBody.eq_9 tail) fun _ => ?_
  by_cases h8 : c.toNat < 0x20
  · have hhi : c.toNat / 16 < 16 := Nat.div_lt_of_lt_mul (Nat.lt_trans h8 (by decide))
    have hlo : c.toNat % 16 < 16 := Nat.mod_lt _ (by decide)
    rw [if_pos h8]
    show parseStrBody ('\\' :: 'u' :: '0' :: '0' :: _ :: _ :: tail) = _
    rw [parseStrBody.eq_10, unhexUpper_hexUpper _ hhi, unhexUpper_hexUpper _ hlo]
    dsimp only
    rw [Nat.div_add_mod, Char.ofNat_toNat]
  · rw [if_neg h8]
    apply parseStrBody.eq_12 <;> intros <;> contradiction

theorem parseStrBody_escape (s rest : List Char) : parseStrBody (escape s ++ '"' :: rest) = some (s, rest) := by
  induction s with
  | nil => rfl
  | cons c s ih => rw [escape, List.append_assoc, parseStrBody_escapeChar, ih]; rfl

theorem parseStr_str (s rest : List Char) : parseStr (str s ++ rest) = some (s, rest) := by
  simp only [str, List.cons_append, List.append_assoc, parseStr]
  exact parseStrBody_escape s rest

/-- `hr`: the text does not go on with a digit; on a text that starts with a literal it holds by `rfl` -/
theorem parseNat_nat (n : Nat) (rest : List Char) (hr : rest.takeWhile Char.isDigit = []) :
    parseNat (nat n ++ rest) = some (n, rest) := by
  have hd : ∀ c ∈ Nat.toDigits 10 n, c.isDigit = true :=
    fun c hc => Nat.isDigit_of_mem_toDigits (by decide) (by decide) hc
  have hdrop : rest.dropWhile Char.isDigit = rest := by
    have := List.takeWhile_append_dropWhile (p := Char.isDigit) (l := rest)
    rwa [hr] at this
  rw [parseNat, nat, List.takeWhile_append_of_pos hd, List.dropWhile_append_of_pos hd, hr, hdrop, List.append_nil,
    if_neg (by simp [Nat.toDigits_ne_nil]), Nat.ofDigitChars_toDigits (by decide) (by decide)]

theorem parseCoin_coin (c : Coin) (rest : List Char) : parseCoin (coin c ++ rest) = some (c, rest) := by
  unfold parseCoin coin
  simp only [List.append_assoc, expect_append, parseStr_str, Option.bind_eq_bind, Option.bind_some]
  rw [parseNat_nat c.amount _ rfl]
  simp only [Option.bind_some, expect_append, String.ofList_toList]
  rfl

theorem parseCoinsTail_flatten (cs : Coins) (rest : List Char) (fuel : Nat) (hf : cs.length ≤ fuel) :
    parseCoinsTail (fuel + 1) ((cs.map fun c => ',' :: coin c).flatten ++ ']' :: rest) = some (cs, rest) := by
  induction cs generalizing fuel with
  | nil => rfl
  | cons c cs ih =>
    cases fuel with
    | zero => cases hf
    | succ f =>
      simp only [List.map_cons, List.flatten_cons, List.cons_append, List.append_assoc, parseCoinsTail]
      rw [parseCoin_coin]
      simp only [Option.bind_eq_bind, Option.bind_some]
      rw [ih f (Nat.le_of_succ_le_succ hf)]
      rfl

theorem seq_cons {α : Type} (f : α → List Char) (a : α) (l : List α) :
    seq f (a :: l) = f a ++ (l.map fun b => ',' :: f b).flatten := by
  induction l generalizing a with
  | nil => simp [seq]
  | cons b l ih => simp [seq, ih b]

theorem length_le_length_flatten {α : Type} (f : α → List Char) (l : List α) :
    l.length ≤ ((l.map fun b => ',' :: f b).flatten).length := by
  induction l with
  | nil => simp
  | cons b l ih => simp only [List.map_cons, List.flatten_cons, List.length_append, List.length_cons]; omega

theorem parseBalances_balances (cs : Coins) (rest : List Char) : parseBalances (balances cs ++ rest) = some (cs, rest) := by
  cases cs with
  | nil => rfl
  | cons c cs =>
    simp only [balances, seq_cons, List.cons_append, List.append_assoc, List.nil_append]
    -- the text goes on with the `{` of `coin c`, so the second clause of `parseBalances` applies
    have hne : ∀ r, coin c ++ ((cs.map fun c => ',' :: coin c).flatten ++ ']' :: rest) = ']' :: r → False :=
      fun r h => absurd (List.cons.inj h).1 (by decide)
    rw [parseBalances.eq_2 _ hne, parseCoin_coin]
    simp only [Option.bind_eq_bind, Option.bind_some]
    rw [parseCoinsTail_flatten cs rest _
      (Nat.le_trans (length_le_length_flatten coin cs) (List.sublist_append_left _ _).length_le)]
    rfl

theorem parseOptStr_optStr (o : Option String) (rest : List Char) : parseOptStr (optStr o ++ rest) = some (o, rest) := by
  cases o with
  | none => rfl
  | some s =>
    -- the text starts with `"`, not with `null`, so the second clause of `parseOptStr` applies
    rw [optStr, parseOptStr.eq_2 (str s.toList ++ rest) fun r h => absurd (List.cons.inj h).1 (by decide), parseStr_str]
    exact congrArg (fun t => some (some t, rest)) String.ofList_toList

theorem parseContract_contract (cd : ContractData) (rest : List Char) :
    parseContract (contract cd ++ rest) = some (cd, rest) := by
  unfold contract
  repeat rw [List.append_assoc]
  unfold parseContract
  simp only [expect_append, Option.bind_eq_bind, Option.bind_some]
  rw [parseNat_nat cd.codeId _ rfl]
  simp only [Option.bind_some, expect_append, parseStr_str, parseOptStr_optStr]
  rw [parseNat_nat cd.created _ rfl]
  simp only [Option.bind_some, expect_append, String.ofList_toList]
  rfl

theorem inj_of_parse {α : Type} {print : α → List Char} {parse : List Char → Option (α × List Char)}
    (h : ∀ x rest, parse (print x ++ rest) = some (x, rest)) {a b : α} (e : print a = print b) : a = b := by
  have := h a []
  rw [e, h b []] at this
  simpa using this.symm

theorem toBytes_inj {a b : List Char} (h : toBytes a = toBytes b) : a = b := by
  simpa using congrArg String.toList (Layout.utf8_inj h)

end CwMt.Json
