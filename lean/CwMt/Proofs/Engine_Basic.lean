import CwMt.Model.EngineSpec
import CwMt.Model.EngineBig
/-
  CwMt.Proofs.Engine_Basic — the equations of the engine: what the non-recursive steps and each arm of the mutually
  recursive core compute, as they are written in the model, by `rfl`. Three kinds are not the model's text: the
  contract-calling arms of `execute` and `reply_succ` read `… (callThen …)`, which `mapResp_callThen` unfolds to the nested
  matches of the model; `sendFunds_eq` goes through to `Bank.send` (by cases on the funds); and every step once more through
  `handle`, the one sequencing form from which the inductions over the engine (`EngineInv.Runs_engine`, `Engine.fuel_le`)
  take their steps. `rfl` is the tactic, here and for the equations of the other engine files: the term would also make
  each equation a `@[defeq]` lemma (for `dsimp`, which nothing calls with them) and have the unfolding checked again for that.
-/
namespace CwMt.Engine
open CwMt
variable {E : Type}

def mapResp (f : AppResponse → AppResponse) : EngineResult E → EngineResult E
  | (.ok (r, ch), tr) => (.ok (f r, ch), tr)
  | other => other

/-- the common tail of the wasm arms of `execute` and of `reply` -/
def callThen (cfg : Config E) (blk : Block) (fuel : Nat) (ch : Chain E) (addr : Addr) (en : Entry)
    (custom : Event) (tr : Trace) : EngineResult E :=
  match callContract cfg blk ch addr en tr with
  | (.ok (resp, ch2), tr1) =>
    processResponse cfg blk fuel ch2 addr (buildAppResponse addr custom resp).1
      (buildAppResponse addr custom resp).2 tr1
  | (.err, tr1) => (.err, tr1)
  | (.panic, tr1) => (.panic, tr1)
  | (.outOfFuel, tr1) => (.outOfFuel, tr1)

def mapO (f : AppResponse → AppResponse) : Out E → Out E
  | .ok (r, ch) => .ok (f r, ch)
  | other => other

theorem mapResp_fst (f : AppResponse → AppResponse) (x : EngineResult E) : (mapResp f x).1 = mapO f x.1 := by
  obtain ⟨o, t⟩ := x
  cases o with
  | ok p => obtain ⟨r, c⟩ := p; rfl
  | _ => rfl

theorem mapResp_snd (f : AppResponse → AppResponse) (x : EngineResult E) : (mapResp f x).2 = x.2 := by
  unfold mapResp; split <;> rfl

theorem mapResp_ok_iff (f : AppResponse → AppResponse) (x : EngineResult E) (r : AppResponse)
    (ch : Chain E) (tr : Trace) :
    mapResp f x = (.ok (r, ch), tr) ↔ ∃ r0, x = (.ok (r0, ch), tr) ∧ r = f r0 := by
  obtain ⟨o, t⟩ := x
  cases o with
  | ok p =>
    constructor
    · rintro ⟨⟩; exact ⟨p.1, rfl, rfl⟩
    · rintro ⟨r0, ⟨⟩, rfl⟩; rfl
  | _ =>
    constructor
    · rintro ⟨⟩
    · rintro ⟨_, ⟨⟩, _⟩

/-- the right-hand side is the shape the wasm arms of `execute` have in the model -/
theorem mapResp_callThen (cfg : Config E) (blk : Block) (f : AppResponse → AppResponse) (fuel : Nat)
    (ch : Chain E) (addr : Addr) (en : Entry) (custom : Event) (tr : Trace) :
    mapResp f (callThen cfg blk fuel ch addr en custom tr) =
      match callContract cfg blk ch addr en tr with
      | (.ok (resp, ch2), tr1) =>
        let (ar, msgs) := buildAppResponse addr custom resp
        match processResponse cfg blk fuel ch2 addr ar msgs tr1 with
        | (.ok (r, ch3), tr2) => (.ok (f r, ch3), tr2)
        | other => other
      | (.err, tr1) => (.err, tr1)
      | (.panic, tr1) => (.panic, tr1)
      | (.outOfFuel, tr1) => (.outOfFuel, tr1) := by
  unfold callThen
  rcases callContract cfg blk ch addr en tr with ⟨o, tr1⟩
  cases o <;> rfl

theorem bankExecute_bankSend (ch : Chain E) (s : Addr) (to : String) (a : Coins) :
    bankExecute ch s (.bankSend to a) =
      match Bank.send ch.bank s to a with
      | some b =>
        .ok ({ events := [{ ty := "transfer", attrs := [⟨"recipient", to⟩, ⟨"sender", s⟩,
                ⟨"amount", coinsToString a⟩] }], data := none }, { ch with bank := b })
      | none => .err := by rfl

theorem bankExecute_bankBurn (ch : Chain E) (s : Addr) (a : Coins) :
    bankExecute ch s (.bankBurn a) =
      match Bank.burn ch.bank s a with
      | some b => .ok ({}, { ch with bank := b })
      | none => .err := by rfl

theorem sendFunds_eq (ch : Chain E) (s : Addr) (c : String) (f : Coins) :
    sendFunds ch s c f =
      if f = [] then .ok ch else
      match Bank.send ch.bank s c f with
      | some b => .ok { ch with bank := b }
      | none => .err := by
  unfold sendFunds
  cases f with
  | nil => rfl
  | cons x f =>
    rw [bankExecute_bankSend, if_neg nofun, if_neg nofun]
    cases Bank.send ch.bank s c (x :: f) <;> rfl

theorem query_wasmSmart (cfg : Config E) (eq : ExtKind → Chain E → Block → Val → Outcome Val) (blk : Block)
    (ch : Chain E) (c : String) (m : Val) :
    query cfg eq blk ch (.wasmSmart c m) =
      if !cfg.validAddr c then .err else
      match ch.contracts.get? c with
      | none => .err
      | some cd =>
        match contractCode? cfg cd.codeId with
        | none => .err
        | some code => (code.query m (contractEnv blk c) ch ((ch.cstore.get? c).getD [])).map .bytes := by rfl

section eqns
variable (cfg : Config E) (blk : Block)

theorem execute_zero (ch : Chain E) (s : Addr) (m : Msg) (tr : Trace) :
    execute cfg blk 0 ch s m tr = (.outOfFuel, tr) := by rfl

theorem processResponse_zero (ch : Chain E) (c : Addr) (r : AppResponse) (l : List SubMsg) (tr : Trace) :
    processResponse cfg blk 0 ch c r l tr = (.outOfFuel, tr) := by rfl

theorem executeSubmsg_zero (ch : Chain E) (c : Addr) (sm : SubMsg) (tr : Trace) :
    executeSubmsg cfg blk 0 ch c sm tr = (.outOfFuel, tr) := by rfl

theorem reply_zero (ch : Chain E) (c : Addr) (rp : Reply) (tr : Trace) :
    reply cfg blk 0 ch c rp tr = (.outOfFuel, tr) := by rfl

theorem execute_succ_bankSend (fuel : Nat) (ch : Chain E) (s : Addr) (to : String) (a : Coins) (tr : Trace) :
    execute cfg blk (fuel + 1) ch s (.bankSend to a) tr = (bankExecute ch s (.bankSend to a), tr) := by rfl

theorem execute_succ_bankBurn (fuel : Nat) (ch : Chain E) (s : Addr) (a : Coins) (tr : Trace) :
    execute cfg blk (fuel + 1) ch s (.bankBurn a) tr = (bankExecute ch s (.bankBurn a), tr) := by rfl

theorem execute_succ_ext (fuel : Nat) (ch : Chain E) (s : Addr) (k : ExtKind) (p : Val) (tr : Trace) :
    execute cfg blk (fuel + 1) ch s (.ext k p) tr = (cfg.extExec k ch blk s p, tr) := by rfl

theorem execute_succ_wasmUpdateAdmin (fuel : Nat) (ch : Chain E) (s : Addr) (c a : String) (tr : Trace) :
    execute cfg blk (fuel + 1) ch s (.wasmUpdateAdmin c a) tr = (updateAdmin cfg ch s c (some a), tr) := by rfl

theorem execute_succ_wasmClearAdmin (fuel : Nat) (ch : Chain E) (s : Addr) (c : String) (tr : Trace) :
    execute cfg blk (fuel + 1) ch s (.wasmClearAdmin c) tr = (updateAdmin cfg ch s c none, tr) := by rfl

theorem execute_succ_wasmExecute (fuel : Nat) (ch : Chain E) (s : Addr)
    (c : String) (m : Val) (funds : Coins) (tr : Trace) :
    execute cfg blk (fuel + 1) ch s (.wasmExecute c m funds) tr =
      if !cfg.validAddr c then (.err, tr) else
      match sendFunds ch s c funds with
      | .ok ch1 => mapResp (fun r => { r with data := r.data.map encodeExecuteResponse })
          (callThen cfg blk fuel ch1 c (.execute ⟨s, funds⟩ m)
            { ty := "execute", attrs := [contractAttr c] } tr)
      | .err => (.err, tr)
      | .panic => (.panic, tr)
      | .outOfFuel => (.outOfFuel, tr) := by
  -- one pass: what `mapResp_callThen` puts in is the model's text, and visiting it again finds nothing to do
  simp +singlePass only [mapResp_callThen]
  rfl

theorem execute_succ_wasmInstantiate (fuel : Nat) (ch : Chain E) (s : Addr) (admin : Option String)
    (codeId : Nat) (m : Val) (funds : Coins) (label : String) (salt : Option Val) (tr : Trace) :
    execute cfg blk (fuel + 1) ch s (.wasmInstantiate admin codeId m funds label salt) tr =
      if label.isEmpty then (.err, tr) else
      match registerContract cfg ch codeId s admin label blk.height salt with
      | .ok (addr, ch0) =>
        (match sendFunds ch0 s addr funds with
        | .ok ch1 =>
          mapResp (fun r => { r with data := some (encodeInstantiateResponse addr (r.data.getD [])) })
            (callThen cfg blk fuel ch1 addr (.instantiate ⟨s, funds⟩ m)
              { ty := "instantiate", attrs := [contractAttr addr, ⟨"code_id", toString codeId⟩] } tr)
        | .err => (.err, tr)
        | .panic => (.panic, tr)
        | .outOfFuel => (.outOfFuel, tr))
      | .err => (.err, tr)
      | .panic => (.panic, tr)
      | .outOfFuel => (.outOfFuel, tr) := by
  simp +singlePass only [mapResp_callThen]
  rfl

theorem execute_succ_wasmMigrate (fuel : Nat) (ch : Chain E) (s : Addr) (c : String) (newCodeId : Nat)
    (m : Val) (tr : Trace) :
    execute cfg blk (fuel + 1) ch s (.wasmMigrate c newCodeId m) tr =
      if !cfg.validAddr c then (.err, tr) else
      if !codeKnown cfg newCodeId then (.err, tr) else
      match ch.contracts.get? c with
      | none => (.err, tr)
      | some cd =>
        if cd.admin ≠ some s then (.err, tr) else
        mapResp (fun r => { r with data := r.data.map encodeExecuteResponse })
          (callThen cfg blk fuel
            { ch with contracts := ch.contracts.set c { cd with codeId := newCodeId } } c (.migrate m)
            { ty := "migrate", attrs := [contractAttr c, ⟨"code_id", toString newCodeId⟩] } tr) := by
  simp +singlePass only [mapResp_callThen]
  rfl

theorem processResponse_succ_nil (fuel : Nat) (ch : Chain E) (c : Addr) (r : AppResponse) (tr : Trace) :
    processResponse cfg blk (fuel + 1) ch c r [] tr = (.ok (r, ch), tr) := by rfl

theorem processResponse_succ_cons (fuel : Nat) (ch : Chain E) (c : Addr) (resp : AppResponse)
    (sm : SubMsg) (rest : List SubMsg) (tr : Trace) :
    processResponse cfg blk (fuel + 1) ch c resp (sm :: rest) tr =
      (match executeSubmsg cfg blk fuel ch c sm tr with
       | (.ok (sr, ch₁), tr₁) =>
         processResponse cfg blk fuel ch₁ c
           { events := resp.events ++ sr.events, data := sr.data.orElse fun _ => resp.data } rest tr₁
       | other => other) := by rfl

theorem executeSubmsg_succ (fuel : Nat) (ch : Chain E) (c : Addr) (sm : SubMsg) (tr : Trace) :
    executeSubmsg cfg blk (fuel + 1) ch c sm tr =
      (match execute cfg blk fuel ch c sm.msg tr with
      | (.ok (r, ch1), tr1) =>
        if wantsReplyOnOk sm.replyOn then
          (match reply cfg blk fuel ch1 c ⟨sm.id, sm.payload, .ok r.events r.data⟩ tr1 with
          | (.ok (rr, ch2), tr2) => (.ok ({ events := r.events ++ rr.events, data := rr.data }, ch2), tr2)
          | other => other)
        else (.ok ({ r with data := none }, ch1), tr1)
      | (.err, tr1) =>
        if wantsReplyOnErr sm.replyOn then reply cfg blk fuel ch c ⟨sm.id, sm.payload, .err⟩ tr1
        else (.err, tr1)
      | (.panic, tr1) => (.panic, tr1)
      | (.outOfFuel, tr1) => (.outOfFuel, tr1)) := by rfl

theorem reply_succ (fuel : Nat) (ch : Chain E) (c : Addr) (rp : Reply) (tr : Trace) :
    reply cfg blk (fuel + 1) ch c rp tr =
      callThen cfg blk fuel ch c (.reply rp) (replyEvent c rp) tr := by rfl

/-- Sequencing of two steps of the engine. After a failed step `errK` continues on whatever state the caller kept:
the failed step has none. -/
def handle {α : Type} (x : Outcome (α × Chain E) × Trace) (okK : α → Chain E → Trace → EngineResult E)
    (errK : Trace → EngineResult E) : EngineResult E :=
  match x with
  | (.ok (a, ch), tr) => okK a ch tr
  | (.err, tr) => errK tr
  | (.panic, tr) => (.panic, tr)
  | (.outOfFuel, tr) => (.outOfFuel, tr)

theorem mapResp_handle (f : AppResponse → AppResponse) (x : EngineResult E) :
    mapResp f x = handle x (fun r ch tr => (.ok (f r, ch), tr)) fun tr => (.err, tr) := by
  obtain ⟨o, t⟩ := x
  cases o <;> rfl

theorem callThen_handle (fuel : Nat) (ch : Chain E) (addr : Addr) (en : Entry) (custom : Event) (tr : Trace) :
    callThen cfg blk fuel ch addr en custom tr =
      handle (callContract cfg blk ch addr en tr)
        (fun resp ch2 => processResponse cfg blk fuel ch2 addr (buildAppResponse addr custom resp).1
          (buildAppResponse addr custom resp).2)
        fun tr1 => (.err, tr1) := by
  unfold callThen
  rcases callContract cfg blk ch addr en tr with ⟨o, t⟩
  cases o <;> rfl

theorem processResponse_cons_handle (fuel : Nat) (ch : Chain E) (c : Addr) (resp : AppResponse)
    (sm : SubMsg) (rest : List SubMsg) (tr : Trace) :
    processResponse cfg blk (fuel + 1) ch c resp (sm :: rest) tr =
      handle (executeSubmsg cfg blk fuel ch c sm tr)
        (fun sr ch₁ => processResponse cfg blk fuel ch₁ c
          { events := resp.events ++ sr.events, data := sr.data.orElse fun _ => resp.data } rest)
        fun tr₁ => (.err, tr₁) := by
  rw [processResponse_succ_cons]
  rcases executeSubmsg cfg blk fuel ch c sm tr with ⟨o, t⟩
  cases o <;> rfl

/-- The `if`s stand outside `fun tr1 =>`: the two inductions decide them in goals such as
`Runs I c ch1 (if b then f else g)`, where there is no trace to apply the continuation to. -/
theorem executeSubmsg_handle (fuel : Nat) (ch : Chain E) (c : Addr) (sm : SubMsg) (tr : Trace) :
    executeSubmsg cfg blk (fuel + 1) ch c sm tr =
      handle (execute cfg blk fuel ch c sm.msg tr)
        (fun r ch1 =>
          if wantsReplyOnOk sm.replyOn then fun tr1 =>
            mapResp (fun rr => { events := r.events ++ rr.events, data := rr.data })
              (reply cfg blk fuel ch1 c ⟨sm.id, sm.payload, .ok r.events r.data⟩ tr1)
          else fun tr1 => (.ok ({ r with data := none }, ch1), tr1))
        (if wantsReplyOnErr sm.replyOn then reply cfg blk fuel ch c ⟨sm.id, sm.payload, .err⟩
          else fun tr1 => (.err, tr1)) := by
  rw [executeSubmsg_succ]
  rcases execute cfg blk fuel ch c sm.msg tr with ⟨o, t⟩
  cases o with
  | ok p => cases wantsReplyOnOk sm.replyOn <;> rfl
  | err => cases wantsReplyOnErr sm.replyOn <;> rfl
  | _ => rfl

end eqns

end CwMt.Engine
