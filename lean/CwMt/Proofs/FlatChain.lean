import CwMt.Model.Flat
import CwMt.Proofs.AMap
import CwMt.Proofs.Layout
/-
  CwMt.Proofs.FlatChain — what `Flat.flatten` holds: exactly the raw records of the typed state (CwMt/Model/Flat.lean).
  `flatten` writes the records one after the other into an empty store. Their keys are pairwise distinct (`records_nodup`:
  length-prefixed segments are prefix-free, so two keys are equal only if they agree segment by segment), hence the
  store holds exactly the records (`mem_writeAll`), and under the key of `a` lies the encoding of what the typed map holds
  for `a` (`amap_records`). What this asks of the typed state, `FlatWF`, is what the driver's `Flat.wfCheck` tests
  (`FlatWF.of_wfCheck`).
-/
namespace CwMt.Flat
open CwMt CwMt.Store
variable {E : Type}

theorem sorted_writeAll (l : List (Key × Val)) {s : Store Val} (hs : s.Sorted) : (writeAll l s).Sorted :=
  List.foldlRecOn l _ hs fun _ h r _ => sorted_set h r.1 r.2

theorem flatten_sorted (ch : Chain E) : (flatten ch).Sorted := sorted_writeAll _ sorted_nil

theorem mem_writeAll {l : List (Key × Val)} {s : Store Val} (hs : s.Sorted) (hn : (l.map (·.1)).Nodup) {p : Key × Val} :
    p ∈ writeAll l s ↔ p ∈ l ∨ (p ∈ s ∧ ∀ r ∈ l, r.1 ≠ p.1) := by
  induction l generalizing s with
  | nil => simp [writeAll]
  | cons r l ih =>
    rw [List.map_cons, List.nodup_cons] at hn
    show p ∈ writeAll l (s.set r.1 r.2) ↔ _
    rw [ih (sorted_set hs _ _) hn.2, mem_set hs, List.mem_cons, List.forall_mem_cons]
    constructor
    · rintro (h | ⟨rfl | ⟨h, hne⟩, hl⟩)
      · exact Or.inl (Or.inr h)
      · exact Or.inl (Or.inl rfl)
      · exact Or.inr ⟨h, Ne.symm hne, hl⟩
    · rintro ((rfl | h) | ⟨h, hne, hl⟩)
      · exact Or.inr ⟨Or.inl rfl, fun r' hr' e => hn.1 (List.mem_map.mpr ⟨r', hr', e⟩)⟩
      · exact Or.inl h
      · exact Or.inr ⟨Or.inr ⟨h, Ne.symm hne⟩, hl⟩

/-! Every key is `lp x ++ lp y ++ rest`; no byte of a key is ever looked at. -/

theorem toLP_eq_lp {s : List UInt8} (h : s.length ≤ 65535) : toLP s = .ok (lp s) := Prefix.toLP_of_le s h

/-- the bounds say that the two length bytes do not wrap; on a literal they evaluate (`decide`) -/
theorem lp_append_inj {x y : String} {s t : List UInt8} (hx : x.utf8ByteSize ≤ 65535) (hy : y.utf8ByteSize ≤ 65535)
    (h : lp (utf8 x) ++ s = lp (utf8 y) ++ t) : x = y ∧ s = t := by
  rw [← Layout.utf8_length] at hx hy
  obtain ⟨e, hs⟩ := Prefix.toLP_prefix_free (toLP_eq_lp hx) (toLP_eq_lp hy) h
  exact ⟨Layout.utf8_inj e, hs⟩

/-- 65521 = 65535 − 14: the namespace segment of a contract's store is `contract_data/` (14 bytes,
`Layout.contract_namespace_bytes`) followed by the address, and a segment has at most 65535 bytes -/
theorem namespace_short {a : Addr} (h : (utf8 a).length ≤ 65521) : ("contract_data/" ++ a).utf8ByteSize ≤ 65535 := by
  rw [← Layout.utf8_length, Layout.contract_namespace_bytes, List.length_append]
  exact Nat.add_le_add_left h 14

theorem bankKey_inj {a b : Addr} (h : bankKey a = bankKey b) : a = b :=
  Layout.utf8_inj (List.append_cancel_left h)

theorem contractKey_inj {a b : Addr} (h : contractKey a = contractKey b) : a = b :=
  Layout.utf8_inj (List.append_cancel_left h)

theorem storeKey_inj {a b : Addr} {k k' : Key} (ha : (utf8 a).length ≤ 65521) (hb : (utf8 b).length ≤ 65521)
    (h : storeKey a k = storeKey b k') : a = b ∧ k = k' := by
  simp only [storeKey, List.append_assoc] at h
  obtain ⟨e, hk⟩ := lp_append_inj (namespace_short ha) (namespace_short hb) (List.append_cancel_left h)
  exact ⟨(String.append_right_inj _).mp e, hk⟩

theorem bank_ne_wasm (s t : List UInt8) : lp (utf8 "bank") ++ s ≠ lp (utf8 "wasm") ++ t :=
  fun h => absurd (lp_append_inj (by decide) (by decide) h).1 (by decide)

theorem bankKey_ne_contractKey (a b : Addr) : bankKey a ≠ contractKey b := by
  simp only [bankKey, contractKey, List.append_assoc]
  exact bank_ne_wasm _ _

theorem bankKey_ne_storeKey (a b : Addr) (k : Key) : bankKey a ≠ storeKey b k := by
  simp only [bankKey, storeKey, List.append_assoc]
  exact bank_ne_wasm _ _

theorem contractKey_ne_storeKey (a b : Addr) (k : Key) (hb : (utf8 b).length ≤ 65521) : contractKey a ≠ storeKey b k := by
  simp only [contractKey, storeKey, List.append_assoc]
  intro h
  exact Layout.contract_namespace_ne_contracts b
    (lp_append_inj (by decide) (namespace_short hb) (List.append_cancel_left h)).1.symm

/-- the left side is a disjunct of `mem_records` -/
theorem amap_records {α : Type} {m : AMap α} (hn : (m.map (·.1)).Nodup) (key : String → Key) (enc : α → Val)
    (hk : ∀ {a b}, key a = key b → a = b) {a : String} {v : Val} :
    (∃ p ∈ m, (key a, v) = (key p.1, enc p.2)) ↔ (m.get? a).map enc = some v := by
  simp only [Option.map_eq_some_iff, AMap.get?_eq_some_iff (List.pairwise_map.1 hn)]
  constructor
  · rintro ⟨p, hp, e⟩
    obtain ⟨e1, rfl⟩ := Prod.mk.inj e
    exact ⟨p.2, hk e1 ▸ hp, rfl⟩
  · rintro ⟨x, hx, rfl⟩
    exact ⟨(a, x), hx, rfl⟩

/-- 65521 bytes: `namespace_short`; the real code panics beyond -/
structure FlatWF (ch : Chain E) : Prop where
  bank : (ch.bank.map (·.1)).Nodup
  contracts : (ch.contracts.map (·.1)).Nodup
  cstore : (ch.cstore.map (·.1)).Nodup
  inner : ∀ p ∈ ch.cstore, p.2.Sorted
  short : ∀ p ∈ ch.cstore, (utf8 p.1).length ≤ 65521

theorem mem_records (ch : Chain E) (r : Key × Val) :
    r ∈ records ch ↔ (∃ p ∈ ch.bank, r = (bankKey p.1, Json.balancesJson p.2)) ∨
      (∃ p ∈ ch.contracts, r = (contractKey p.1, Json.contractJson p.2)) ∨
      (∃ p ∈ ch.cstore, ∃ kv ∈ p.2, r = (storeKey p.1 kv.1, kv.2)) := by
  simp only [records, List.mem_append, List.mem_map, List.mem_flatMap, eq_comm]

theorem records_nodup (ch : Chain E) (wf : FlatWF ch) : ((records ch).map (·.1)).Nodup := by
  simp only [List.Nodup, records, List.pairwise_map, List.pairwise_append, List.pairwise_flatMap, List.mem_append,
    List.mem_map, List.mem_flatMap]
  refine ⟨?_, ⟨?_, ⟨fun p hp => ?_, ?_⟩, ?_⟩, ?_⟩
  · exact (List.pairwise_map.mp wf.bank).imp fun h e => h (bankKey_inj e)
  · exact (List.pairwise_map.mp wf.contracts).imp fun h e => h (contractKey_inj e)
  · exact (wf.inner p hp).imp fun h e => Std.ne_of_lt h (storeKey_inj (wf.short p hp) (wf.short p hp) e).2
  · refine (List.pairwise_map.mp wf.cstore).imp_of_mem fun hp hq h => ?_
    rintro _ ⟨_, _, rfl⟩ _ ⟨_, _, rfl⟩ e
    exact h (storeKey_inj (wf.short _ hp) (wf.short _ hq) e).1
  · rintro _ ⟨_, _, rfl⟩ _ ⟨q, hq, _, _, rfl⟩
    exact contractKey_ne_storeKey _ _ _ (wf.short q hq)
  · rintro _ ⟨_, _, rfl⟩ _ (⟨_, _, rfl⟩ | ⟨_, _, _, _, rfl⟩)
    · exact bankKey_ne_contractKey _ _
    · exact bankKey_ne_storeKey _ _ _

theorem get_flatten_eq_some_iff (ch : Chain E) (wf : FlatWF ch) (k : Key) (v : Val) :
    (flatten ch).get k = some v ↔ (k, v) ∈ records ch := by
  rw [get_eq_some_iff (flatten_sorted ch), flatten, mem_writeAll sorted_nil (records_nodup ch wf)]
  simp

theorem get_flatten_bankKey (ch : Chain E) (wf : FlatWF ch) (a : Addr) :
    (flatten ch).get (bankKey a) = (ch.bank.get? a).map Json.balancesJson := by
  ext v
  rw [get_flatten_eq_some_iff ch wf, mem_records, ← amap_records wf.bank bankKey _ bankKey_inj]
  refine ⟨?_, Or.inl⟩
  rintro (h | ⟨p, _, e⟩ | ⟨p, _, kv, _, e⟩)
  · exact h
  · exact absurd (Prod.mk.inj e).1 (bankKey_ne_contractKey a p.1)
  · exact absurd (Prod.mk.inj e).1 (bankKey_ne_storeKey a p.1 kv.1)

theorem get_flatten_contractKey (ch : Chain E) (wf : FlatWF ch) (a : Addr) :
    (flatten ch).get (contractKey a) = (ch.contracts.get? a).map Json.contractJson := by
  ext v
  rw [get_flatten_eq_some_iff ch wf, mem_records, ← amap_records wf.contracts contractKey _ contractKey_inj]
  refine ⟨?_, fun h => Or.inr (Or.inl h)⟩
  rintro (⟨p, _, e⟩ | h | ⟨p, hp, kv, _, e⟩)
  · exact absurd (Prod.mk.inj e).1.symm (bankKey_ne_contractKey p.1 a)
  · exact h
  · exact absurd (Prod.mk.inj e).1 (contractKey_ne_storeKey a p.1 kv.1 (wf.short p hp))

theorem get_flatten_storeKey (ch : Chain E) (wf : FlatWF ch) (a : Addr) (k : Key) (ha : (utf8 a).length ≤ 65521) :
    (flatten ch).get (storeKey a k) = (ch.cstore.get? a).bind (·.get k) := by
  ext v
  simp only [get_flatten_eq_some_iff ch wf, mem_records, Option.bind_eq_some_iff,
    AMap.get?_eq_some_iff (List.pairwise_map.1 wf.cstore)]
  constructor
  · rintro (⟨p, _, e⟩ | ⟨p, _, e⟩ | ⟨p, hp, kv, hkv, e⟩)
    · exact absurd (Prod.mk.inj e).1.symm (bankKey_ne_storeKey p.1 a k)
    · exact absurd (Prod.mk.inj e).1.symm (contractKey_ne_storeKey p.1 a k ha)
    · obtain ⟨e1, rfl⟩ := Prod.mk.inj e
      obtain ⟨rfl, rfl⟩ := storeKey_inj ha (wf.short p hp) e1
      exact ⟨p.2, hp, (get_eq_some_iff (wf.inner p hp)).2 hkv⟩
  · rintro ⟨st, hst, hv⟩
    exact Or.inr (Or.inr ⟨(a, st), hst, (k, v), mem_of_get_eq_some hv, rfl⟩)

theorem FlatWF.of_wfCheck {ch : Chain E} (h : wfCheck ch = true) : FlatWF ch := by
  simp only [wfCheck, Bool.and_eq_true, decide_eq_true_eq, List.all_eq_true] at h
  obtain ⟨⟨⟨h1, h2⟩, h3⟩, h4⟩ := h
  exact ⟨h1, h2, h3, fun p hp => (h4 p hp).1, fun p hp => (h4 p hp).2⟩

end CwMt.Flat
