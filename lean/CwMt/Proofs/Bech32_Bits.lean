import CwMt.Model.Bech32
/-
  The 8 ↔ 5 bit regrouping of Bech32: `bytesToFes` and `fesToBytes` are inverse to each other up to padding.

  Both regroupings cut a bit list into groups of `n` bits and read each group as a value. For any such reader a
  list of whole groups is read back group by group (`chunks_flatMap_append`), and every bit list is whole groups
  followed by fewer than `n` bits (`exists_flatMap_append`); so only the treatment of the short rest differs:
  `chunks8` drops it, `chunks5` pads it with zeros. Flattening the result therefore gives the list back up to a
  short rest, stated with an existential rest and not with `take` / `drop` (`flatMap_bits8_chunks8`; for `chunks5`,
  whose definition lists the short cases, `flatMap_bits5_chunks5` goes by its own recursion).
-/
namespace CwMt.Bech32

section groups
variable {α : Type} {n : Nat} {bits : α → List Bool} {chunks : List Bool → List α}

theorem flatMap_bits_length (hlen : ∀ x, (bits x).length = n) (xs : List α) :
    (xs.flatMap bits).length = n * xs.length := by
  induction xs with
  | nil => rfl
  | cons x xs ih =>
    rw [List.flatMap_cons, List.length_append, hlen, ih, List.length_cons, Nat.mul_succ, Nat.add_comm]

theorem chunks_flatMap_append (hcons : ∀ x r, chunks (bits x ++ r) = x :: chunks r) (xs : List α) (r : List Bool) :
    chunks (xs.flatMap bits ++ r) = xs ++ chunks r := by
  induction xs with
  | nil => rfl
  | cons x xs ih => rw [List.flatMap_cons, List.append_assoc, hcons, ih]; rfl

theorem exists_flatMap_append (hn : 0 < n) (hsurj : ∀ l : List Bool, l.length = n → ∃ x, bits x = l)
    (l : List Bool) : ∃ (xs : List α) (r : List Bool), l = xs.flatMap bits ++ r ∧ r.length < n := by
  by_cases hl : l.length < n
  · exact ⟨[], l, rfl, hl⟩
  · obtain ⟨x, hx⟩ := hsurj (l.take n) (List.length_take_of_le (Nat.le_of_not_lt hl))
    obtain ⟨xs, r, hd, hr⟩ := exists_flatMap_append hn hsurj (l.drop n)
    exact ⟨x :: xs, r, by rw [List.flatMap_cons, hx, List.append_assoc, ← hd, List.take_append_drop], hr⟩
termination_by l.length
decreasing_by
  rw [List.length_drop]
  exact Nat.sub_lt (Nat.lt_of_lt_of_le hn (Nat.le_of_not_lt hl)) hn

end groups

theorem bits5_length (v : Sym) : (bits5 v).length = 5 := rfl
theorem bits8_length (b : UInt8) : (bits8 b).length = 8 := rfl

theorem mk5_bits5 : ∀ v : Sym,
    mk5 (v.getLsbD 4) (v.getLsbD 3) (v.getLsbD 2) (v.getLsbD 1) (v.getLsbD 0) = v := by decide +kernel

theorem bits5_mk5 : ∀ a b c d e : Bool, bits5 (mk5 a b c d e) = [a, b, c, d, e] := by decide +kernel

theorem testBit_double_add_zero (n : Nat) (b : Bool) : (2 * n + b.toNat).testBit 0 = b := by
  rw [Nat.testBit_zero, Nat.mul_add_mod, Nat.mod_eq_of_lt (Bool.toNat_lt b)]
  cases b <;> rfl

theorem testBit_double_add_succ (n i : Nat) (b : Bool) : (2 * n + b.toNat).testBit (i + 1) = n.testBit i := by
  rw [Nat.testBit_add_one, Nat.mul_add_div (by decide), Nat.div_eq_of_lt (Bool.toNat_lt b), Nat.add_zero]

/-- `mk8` is Horner's scheme on the bits, and `testBit` reads the digits off again -/
theorem bits8_mk8 (a b c d e f g h : Bool) : bits8 (mk8 a b c d e f g h) = [a, b, c, d, e, f, g, h] := by
  have : 128 * a.toNat + 64 * b.toNat + 32 * c.toNat + 16 * d.toNat + 8 * e.toNat + 4 * f.toNat + 2 * g.toNat
      + h.toNat = 2 * (2 * (2 * (2 * (2 * (2 * (2 * (2 * 0 + a.toNat) + b.toNat) + c.toNat) + d.toNat) + e.toNat)
        + f.toNat) + g.toNat) + h.toNat := by
    simp only [Nat.mul_add, ← Nat.mul_assoc, Nat.mul_zero, Nat.zero_add, Nat.reduceMul]
  simp only [bits8, mk8, this, BitVec.getLsbD_ofNat, testBit_double_add_succ, testBit_double_add_zero, Nat.reduceLT,
    decide_true, Bool.true_and]

theorem bits8_inj {x y : UInt8} (h : bits8 x = bits8 y) : x = y := by
  simp only [bits8, List.cons.injEq, and_true] at h
  obtain ⟨h7, h6, h5, h4, h3, h2, h1, h0⟩ := h
  apply UInt8.toBitVec_inj.mp
  apply BitVec.eq_of_getLsbD_eq
  intro i hi
  rcases i with _ | _ | _ | _ | _ | _ | _ | _ | i
  · exact h0
  · exact h1
  · exact h2
  · exact h3
  · exact h4
  · exact h5
  · exact h6
  · exact h7
  · exact absurd hi (Nat.not_lt_of_le (Nat.le_add_left 8 i))

theorem mk8_bits8 (x : UInt8) :
    mk8 (x.toBitVec.getLsbD 7) (x.toBitVec.getLsbD 6) (x.toBitVec.getLsbD 5) (x.toBitVec.getLsbD 4)
      (x.toBitVec.getLsbD 3) (x.toBitVec.getLsbD 2) (x.toBitVec.getLsbD 1) (x.toBitVec.getLsbD 0) = x :=
  bits8_inj (bits8_mk8 ..)

theorem chunks5_cons (v : Sym) (r : List Bool) : chunks5 (bits5 v ++ r) = v :: chunks5 r :=
  congrArg (· :: chunks5 r) (mk5_bits5 v)

theorem chunks8_cons (b : UInt8) (r : List Bool) : chunks8 (bits8 b ++ r) = b :: chunks8 r :=
  congrArg (· :: chunks8 r) (mk8_bits8 b)

theorem chunks8_short {l : List Bool} (h : l.length < 8) : chunks8 l = [] := by
  unfold chunks8
  split
  · simp at h; omega
  · rfl

theorem flatMap_bits5_chunks5 (l : List Bool) :
    ∃ k < 5, (chunks5 l).flatMap bits5 = l ++ List.replicate k false := by
  fun_induction chunks5 l with
  | case1 a b c d e rest ih =>
    obtain ⟨k, hk, ih⟩ := ih
    exact ⟨k, hk, by rw [List.flatMap_cons, ih, bits5_mk5]; rfl⟩
  -- an incomplete last group: both sides unfold to the five bits of the padded group, followed by `[]`
  | case2 a b c d => exact ⟨1, by decide, congrArg (· ++ []) (bits5_mk5 ..)⟩
  | case3 a b c => exact ⟨2, by decide, congrArg (· ++ []) (bits5_mk5 ..)⟩
  | case4 a b => exact ⟨3, by decide, congrArg (· ++ []) (bits5_mk5 ..)⟩
  | case5 a => exact ⟨4, by decide, congrArg (· ++ []) (bits5_mk5 ..)⟩
  | case6 => exact ⟨0, by decide, rfl⟩

theorem flatMap_bits8_chunks8 (l : List Bool) :
    ∃ r, r.length < 8 ∧ l = (chunks8 l).flatMap bits8 ++ r := by
  -- eight bits are `bits8` of the byte they make
  obtain ⟨bs, r, rfl, hr⟩ := exists_flatMap_append (n := 8) (bits := bits8) (by decide)
    (fun l hl => match l, hl with | [a, b, c, d, e, f, g, h], _ => ⟨_, bits8_mk8 a b c d e f g h⟩) l
  rw [chunks_flatMap_append chunks8_cons, chunks8_short hr, List.append_nil]
  exact ⟨r, hr, rfl⟩

theorem fesToBytes_bytesToFes (bs : List UInt8) : fesToBytes (bytesToFes bs) = bs := by
  obtain ⟨k, hk, h⟩ := flatMap_bits5_chunks5 (bs.flatMap bits8)
  rw [fesToBytes, bytesToFes, h, chunks_flatMap_append chunks8_cons, chunks8_short, List.append_nil]
  rw [List.length_replicate]; omega

theorem bytesToFes_length (bs : List UInt8) : (bytesToFes bs).length = (8 * bs.length + 4) / 5 := by
  obtain ⟨k, hk, h⟩ := flatMap_bits5_chunks5 (bs.flatMap bits8)
  have := congrArg List.length h
  rw [flatMap_bits_length bits5_length, List.length_append, List.length_replicate,
    flatMap_bits_length bits8_length] at this
  -- `this : 5 * m = 8 * n + k` with `k < 5`, so `m * 5 ≤ 8 * n + 4 < (m + 1) * 5`
  rw [bytesToFes]
  refine (Nat.div_eq_of_lt_le ?_ ?_).symm
  · rw [Nat.mul_comm, this]; exact Nat.add_le_add_left (Nat.le_of_lt_succ hk) _
  · rw [Nat.add_one_mul _ 5, Nat.mul_comm _ 5, this, Nat.add_assoc]
    exact Nat.add_lt_add_left (Nat.lt_add_left k (by decide)) _

theorem leftover_eq {fs : List Sym} {bs : List UInt8} {r : List Bool}
    (h : fs.flatMap bits5 = bs.flatMap bits8 ++ r) (hr : r.length < 8) : leftover fs = r := by
  have hl := flatMap_bits_length bits8_length bs
  rw [leftover, h, List.length_append, hl, Nat.mul_add_div (by decide), Nat.div_eq_of_lt hr, Nat.add_zero, ← hl]
  exact List.drop_left

theorem strictPad_bytesToFes (bs : List UInt8) : strictPad (bytesToFes bs) = true := by
  obtain ⟨k, hk, h⟩ := flatMap_bits5_chunks5 (bs.flatMap bits8)
  rw [strictPad, leftover_eq (fs := bytesToFes bs) h (by rw [List.length_replicate]; omega)]
  simp [hk]

theorem bytesToFes_fesToBytes {fs : List Sym} (h : strictPad fs = true) :
    bytesToFes (fesToBytes fs) = fs := by
  -- the bits of `fs` are those of the bytes, then a rest `r`; the bits of the result are those of the bytes, then `k` zeros
  obtain ⟨r, hr, hB⟩ : ∃ r, r.length < 8 ∧ fs.flatMap bits5 = (fesToBytes fs).flatMap bits8 ++ r :=
    flatMap_bits8_chunks8 _
  obtain ⟨k, hk, hT⟩ := flatMap_bits5_chunks5 ((fesToBytes fs).flatMap bits8)
  rw [strictPad, leftover_eq hB hr, Bool.and_eq_true, decide_eq_true_eq] at h
  obtain ⟨h1, h2⟩ := h
  have hr0 : r = List.replicate r.length false :=
    List.eq_replicate_iff.mpr ⟨rfl, fun b hb => by simpa using List.all_eq_true.mp h2 b hb⟩
  -- `r` and the zeros both fill up to the next multiple of five with fewer than five bits
  have hk' : k = r.length := by
    have e1 := congrArg List.length hB
    have e2 := congrArg List.length hT
    rw [flatMap_bits_length bits5_length, List.length_append] at e1 e2
    rw [List.length_replicate] at e2
    omega
  -- so the two symbol lists have the same bits
  have e : (bytesToFes (fesToBytes fs)).flatMap bits5 = fs.flatMap bits5 := by
    rw [bytesToFes, hT, hk', ← hr0]; exact hB.symm
  have := chunks_flatMap_append chunks5_cons (bytesToFes (fesToBytes fs)) []
  rw [e, chunks_flatMap_append chunks5_cons] at this
  exact (List.append_cancel_right this).symm

end CwMt.Bech32
