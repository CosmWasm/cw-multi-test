/-
  CwMt.Proofs.StakingArith — floor-division inequalities behind the C15 rounding bounds, over plain `Nat`
  (`o` plays 10^18, `y` the year; both only need to be positive).

  One reward update credits a delegator  K = ⌊⌊N·sa / o⌋ / S⌋  atomics, where
      G = ⌊S·A·T / y⌋           gross validator reward (stake S tokens, rate A atomics, T seconds)
      N = G − ⌊G·c / o⌋          net of commission c (atomics, c ≤ o)
      sa                         the delegator's share (atomics).
  The exact value is  X = sa·A·(o−c)·T / (o²·y)  atomics. Multiplying out the denominators:
      upper :  K·(S·o·o·y) ≤ S·A·T·(o−c)·sa + o·y·sa                  i.e.  K ≤ X + ρ          (ρ = sa/(S·o))
      lower :  S·A·T·(o−c)·sa ≤ (K+1)·(S·o·o·y) + o·o·y + y·(o−c)·sa  i.e.  X ≤ K + 1 + 1/S + (1−c/o)·ρ
  The term `1/S` (`o·o·y`) of the lower bound is slack: the proof of `credit_lower` does not need it, it is there because the
  C15 statements carry it. With a share below `S + 1` tokens (`ratio_le_two`: ρ ≤ 2) the validator total drops out:
  K ≤ X + 2 and X ≤ K + 1 + 1 + 2 = K + 4, the second 1 being that slack (`credit_upper_free`, `credit_lower_free`).

  A rounded quantity `x` is kept together with its scale `p`: bounded from above by `x * p ≤ e`, from below by
  `e ≤ x * p + r`. Every operation of the computation has one lemma for each side that carries such a bound over to the
  result (`mul_div_*` for `· * m / d`, `net_*` for the commission); a credit bound is their composition. The last two
  roundings, `/ o / S`, count as one, `/ (o * S)` (`Nat.div_div_eq_div_mul`).
-/
namespace CwMt.Staking.Arith

theorem mul_div_upper {x p e : Nat} (m d : Nat) (h : x * p ≤ e) : x * m / d * (d * p) ≤ e * m :=
  calc x * m / d * (d * p) = x * m / d * d * p := (Nat.mul_assoc _ _ _).symm
    _ ≤ x * m * p := Nat.mul_le_mul_right p (Nat.div_mul_le_self _ _)
    _ = x * p * m := Nat.mul_right_comm x m p
    _ ≤ e * m := Nat.mul_le_mul_right m h

/-- rounding down loses less than one unit `d * p` of the new scale -/
theorem mul_div_lower {x p e r : Nat} (m : Nat) {d : Nat} (hd : 0 < d) (h : e ≤ x * p + r) :
    e * m ≤ x * m / d * (d * p) + (d * p + r * m) :=
  calc e * m ≤ (x * p + r) * m := Nat.mul_le_mul_right m h
    _ = x * m * p + r * m := by rw [Nat.add_mul, Nat.mul_right_comm]
    _ ≤ (x * m / d * d + d) * p + r * m :=
        Nat.add_le_add_right (Nat.mul_le_mul_right p (Nat.le_of_lt (Nat.lt_div_mul_add hd))) _
    _ = x * m / d * (d * p) + (d * p + r * m) := by rw [Nat.add_mul, Nat.mul_assoc, Nat.add_assoc]

theorem net_bounds (G : Nat) {c o : Nat} (ho : 0 < o) (hc : c ≤ o) :
    G * (o - c) ≤ (G - G * c / o) * o ∧ (G - G * c / o) * o ≤ G * (o - c) + o := by
  rw [Nat.sub_mul, Nat.mul_sub]
  have h1 := Nat.div_mul_le_self (G * c) o
  have h2 := Nat.lt_div_mul_add (a := G * c) ho
  have h3 : G * c ≤ G * o := Nat.mul_le_mul_left G hc
  refine ⟨Nat.sub_le_sub_left h1 _, Nat.sub_le_iff_le_add.mpr ?_⟩
  calc G * o = G * o - G * c + G * c := (Nat.sub_add_cancel h3).symm
    _ ≤ G * o - G * c + (G * c / o * o + o) := Nat.add_le_add_left (Nat.le_of_lt h2) _
    _ = G * o - G * c + o + G * c / o * o := by rw [Nat.add_comm (G * c / o * o), Nat.add_assoc]

theorem net_upper {x p e c o : Nat} (ho : 0 < o) (hc : c ≤ o) (h : x * p ≤ e) :
    (x - x * c / o) * (o * p) ≤ e * (o - c) + o * p :=
  calc (x - x * c / o) * (o * p) = (x - x * c / o) * o * p := (Nat.mul_assoc _ _ _).symm
    _ ≤ (x * (o - c) + o) * p := Nat.mul_le_mul_right p (net_bounds x ho hc).2
    _ = x * p * (o - c) + o * p := by rw [Nat.add_mul, Nat.mul_right_comm]
    _ ≤ e * (o - c) + o * p := Nat.add_le_add_right (Nat.mul_le_mul_right _ h) _

theorem net_lower {x p e r c o : Nat} (ho : 0 < o) (hc : c ≤ o) (h : e ≤ x * p + r) :
    e * (o - c) ≤ (x - x * c / o) * (o * p) + r * (o - c) :=
  calc e * (o - c) ≤ (x * p + r) * (o - c) := Nat.mul_le_mul_right _ h
    _ = x * (o - c) * p + r * (o - c) := by rw [Nat.add_mul, Nat.mul_right_comm]
    _ ≤ (x - x * c / o) * o * p + r * (o - c) :=
        Nat.add_le_add_right (Nat.mul_le_mul_right p (net_bounds x ho hc).1) _
    _ = (x - x * c / o) * (o * p) + r * (o - c) := by rw [Nat.mul_assoc]

variable (S A T c sa o y : Nat)

theorem credit_upper (ho : 0 < o) (hc : c ≤ o) :
    ((S * A * T / y - S * A * T / y * c / o) * sa / o / S) * (S * o * o * y)
      ≤ S * A * T * (o - c) * sa + o * y * sa := by
  have h := mul_div_upper sa (o * S) (net_upper ho hc (Nat.div_mul_le_self (S * A * T) y))
  have e : o * S * (o * y) = S * o * o * y := by rw [Nat.mul_comm o S, Nat.mul_assoc (S * o)]
  rw [e, Nat.add_mul] at h
  rwa [Nat.div_div_eq_div_mul]

theorem credit_lower (ho : 0 < o) (hy : 0 < y) (hS : 0 < S) (hc : c ≤ o) :
    S * A * T * (o - c) * sa
      ≤ ((S * A * T / y - S * A * T / y * c / o) * sa / o / S + 1) * (S * o * o * y) + o * o * y + y * (o - c) * sa := by
  have h := mul_div_lower sa (Nat.mul_pos ho hS)
    (net_lower ho hc (Nat.le_of_lt (Nat.lt_div_mul_add (a := S * A * T) hy)))
  have e : o * S * (o * y) = S * o * o * y := by rw [Nat.mul_comm o S, Nat.mul_assoc (S * o)]
  rw [e, ← Nat.add_assoc, ← Nat.succ_mul] at h
  rw [Nat.div_div_eq_div_mul]
  -- `h` is the claim without the term `o * o * y`; it stays because the C15 bounds (4 atomics per update) are stated with it
  exact Nat.le_trans h (Nat.add_le_add_right (Nat.le_add_right _ _) _)

/-- share/total ratio at most 2 (`hsa` is `TInv.share_lt_total_succ`) -/
theorem ratio_le_two (hS : 0 < S) (hsa : sa ≤ o * (S + 1)) : o * y * sa ≤ 2 * (S * o * o * y) :=
  calc o * y * sa ≤ o * y * (o * (S + S)) :=
        Nat.mul_le_mul_left _ (Nat.le_trans hsa (Nat.mul_le_mul_left o (Nat.add_le_add_left hS S)))
    _ = 2 * (S * o * o * y) := by rw [← Nat.two_mul]; ac_rfl

theorem scale_comm (K : Nat) : S * (K * (o * o * y)) = K * (S * o * o * y) := by
  rw [Nat.mul_left_comm, Nat.mul_assoc S, Nat.mul_assoc S]

/-- K ≤ X + 2 -/
theorem credit_upper_free (ho : 0 < o) (hS : 0 < S) (hc : c ≤ o) (hsa : sa ≤ o * (S + 1)) :
    ((S * A * T / y - S * A * T / y * c / o) * sa / o / S) * (o * o * y) ≤ A * T * (o - c) * sa + 2 * (o * o * y) := by
  refine Nat.le_of_mul_le_mul_left ?_ hS
  calc S * (_ * (o * o * y)) = _ * (S * o * o * y) := scale_comm S o y _
    _ ≤ S * A * T * (o - c) * sa + o * y * sa := credit_upper S A T c sa o y ho hc
    _ ≤ S * A * T * (o - c) * sa + 2 * (S * o * o * y) := Nat.add_le_add_left (ratio_le_two S sa o y hS hsa) _
    _ = S * (A * T * (o - c) * sa + 2 * (o * o * y)) := by
      rw [Nat.mul_add, scale_comm, Nat.mul_assoc S, Nat.mul_assoc S, Nat.mul_assoc S]

/-- X ≤ K + 4 -/
theorem credit_lower_free (ho : 0 < o) (hy : 0 < y) (hS : 0 < S) (hc : c ≤ o) (hsa : sa ≤ o * (S + 1)) :
    A * T * (o - c) * sa ≤ ((S * A * T / y - S * A * T / y * c / o) * sa / o / S + 4) * (o * o * y) := by
  refine Nat.le_of_mul_le_mul_left ?_ hS
  have h1 : o * o * y ≤ S * o * o * y := by
    rw [Nat.mul_assoc S, Nat.mul_assoc S]; exact Nat.le_mul_of_pos_left _ hS
  have h2 : y * (o - c) * sa ≤ 2 * (S * o * o * y) :=
    calc y * (o - c) * sa ≤ y * o * sa := Nat.mul_le_mul_right sa (Nat.mul_le_mul_left y (Nat.sub_le o c))
      _ = o * y * sa := by rw [Nat.mul_comm y o]
      _ ≤ _ := ratio_le_two S sa o y hS hsa
  calc S * (A * T * (o - c) * sa) = S * A * T * (o - c) * sa := by rw [Nat.mul_assoc S, Nat.mul_assoc S, Nat.mul_assoc S]
    _ ≤ (_ + 1) * (S * o * o * y) + o * o * y + y * (o - c) * sa := credit_lower S A T c sa o y ho hy hS hc
    _ ≤ (_ + 1) * (S * o * o * y) + S * o * o * y + 2 * (S * o * o * y) :=
        Nat.add_le_add (Nat.add_le_add_left h1 _) h2
    _ = (_ + 4) * (S * o * o * y) := by rw [← Nat.succ_mul, ← Nat.add_mul]
    _ = S * ((_ + 4) * (o * o * y)) := (scale_comm S o y _).symm

/-- a bound per update that is linear in its time span `T`, summed over the spans `Ts` of a period -/
theorem sum_upper (k : Nat → Nat) (a b d P E : Nat) (h : ∀ T, k T * P ≤ a * T * b * d + E) (Ts : List Nat) :
    (Ts.map k).sum * P ≤ a * Ts.sum * b * d + Ts.length * E := by
  induction Ts with
  | nil => simp
  | cons T Ts ih =>
    have hT := h T
    simp only [List.map_cons, List.sum_cons, List.length_cons]
    rw [Nat.add_mul, Nat.mul_add a, Nat.add_mul (a * T), Nat.add_mul (a * T * b), Nat.add_mul Ts.length 1, Nat.one_mul]
    calc k T * P + (Ts.map k).sum * P ≤ (a * T * b * d + E) + (a * Ts.sum * b * d + Ts.length * E) := Nat.add_le_add hT ih
      _ = a * T * b * d + a * Ts.sum * b * d + (Ts.length * E + E) := by rw [Nat.add_add_add_comm, Nat.add_comm E]

theorem sum_lower (k : Nat → Nat) (a b d P E₁ E₂ : Nat) (h : ∀ T, a * T * b * d ≤ (k T + 1) * P + E₁ + E₂)
    (Ts : List Nat) :
    a * Ts.sum * b * d ≤ ((Ts.map k).sum + Ts.length) * P + Ts.length * (E₁ + E₂) := by
  induction Ts with
  | nil => simp
  | cons T Ts ih =>
    have hT := h T
    simp only [List.map_cons, List.sum_cons, List.length_cons]
    rw [Nat.mul_add a, Nat.add_mul (a * T), Nat.add_mul (a * T * b), Nat.add_mul Ts.length 1 (E₁ + E₂), Nat.one_mul]
    have e1 : (k T + (Ts.map k).sum + (Ts.length + 1)) * P = (k T + 1) * P + ((Ts.map k).sum + Ts.length) * P := by
      rw [← Nat.add_mul, Nat.add_comm Ts.length 1, Nat.add_add_add_comm]
    rw [e1]
    rw [Nat.add_assoc] at hT
    calc a * T * b * d + a * Ts.sum * b * d
        ≤ ((k T + 1) * P + (E₁ + E₂)) + (((Ts.map k).sum + Ts.length) * P + Ts.length * (E₁ + E₂)) :=
          Nat.add_le_add hT ih
      _ = (k T + 1) * P + ((Ts.map k).sum + Ts.length) * P + (Ts.length * (E₁ + E₂) + (E₁ + E₂)) := by
          rw [Nat.add_add_add_comm, Nat.add_comm (E₁ + E₂)]

/-- the two bounds of the reward ledger (`Ledger.Good`: `o` plays 10^18, `q` one atomic on the scale of the exact values)
survive an update that credits `K` for an exact value `X` with `K ≤ X + 2` and `X ≤ K + 4` atomics -/
theorem good_credit {o q paid acc w n ex K X : Nat} (u : K * q ≤ X + 2 * q) (lo : X ≤ (K + 4) * q)
    (g1 : (paid * o + acc) * q ≤ ex + 2 * n * q) (g2 : ex ≤ (paid * o + acc + w * o + 4 * n) * q) :
    (paid * o + (acc + K)) * q ≤ ex + X + 2 * (n + 1) * q ∧
    ex + X ≤ (paid * o + (acc + K) + w * o + 4 * (n + 1)) * q := by
  have e1 : (paid * o + (acc + K)) * q = (paid * o + acc) * q + K * q := by rw [← Nat.add_mul, Nat.add_assoc]
  have e2 : 2 * (n + 1) * q = 2 * n * q + 2 * q := by rw [Nat.mul_add, Nat.mul_one, Nat.add_mul]
  have e3 : (paid * o + (acc + K) + w * o + 4 * (n + 1)) * q
      = (paid * o + acc + w * o + 4 * n) * q + (K + 4) * q := by
    rw [← Nat.add_mul, Nat.mul_add 4 n 1, Nat.mul_one, Nat.add_add_add_comm _ (4 * n) K 4, Nat.add_right_comm _ (w * o) K,
      Nat.add_assoc (paid * o) acc K]
  rw [e1, e2, e3, Nat.add_add_add_comm ex X]
  exact ⟨Nat.add_le_add g1 u, Nat.add_le_add g2 lo⟩

theorem whole_tokens {o : Nat} (paid acc w : Nat) (ho : 0 < o) :
    (paid + acc / o) * o ≤ paid * o + acc ∧ paid * o + acc + w * o < (paid + acc / o + w + 1) * o := by
  have h1 := Nat.div_mul_le_self acc o
  have h2 := Nat.lt_div_mul_add (a := acc) ho
  simp only [Nat.add_mul, Nat.one_mul]
  refine ⟨Nat.add_le_add_left h1 _, ?_⟩
  rw [Nat.add_right_comm _ (w * o) o, Nat.add_assoc (paid * o) (acc / o * o)]
  exact Nat.add_lt_add_right (Nat.add_lt_add_left h2 _) _

/-- the upper bound loses the remainder, the lower bound pays for it with the one token per withdrawal. The `+ 0` is
`Ledger.Good` at `acc := 0` as it unfolds, so that `Ledger.Good_step` closes by `exact`. -/
theorem good_withdraw {o q paid acc w n ex : Nat} (ho : 0 < o)
    (g1 : (paid * o + acc) * q ≤ ex + 2 * n * q) (g2 : ex ≤ (paid * o + acc + w * o + 4 * n) * q) :
    ((paid + acc / o) * o + 0) * q ≤ ex + 2 * n * q ∧
    ex ≤ ((paid + acc / o) * o + 0 + (w + 1) * o + 4 * n) * q := by
  obtain ⟨h1, h2⟩ := whole_tokens paid acc w ho
  refine ⟨Nat.le_trans (Nat.mul_le_mul_right q h1) g1, Nat.le_trans g2 (Nat.mul_le_mul_right q ?_)⟩
  rw [Nat.add_zero, ← Nat.add_mul, ← Nat.add_assoc]
  exact Nat.add_le_add_right (Nat.le_of_lt h2) _

/-- what is shown is ⌊acc/o⌋: the lower bound becomes strict at one more token -/
theorem shown_bounds {o q paid acc w n ex : Nat} (ho : 0 < o) (hq : 0 < q)
    (g1 : (paid * o + acc) * q ≤ ex + 2 * n * q) (g2 : ex ≤ (paid * o + acc + w * o + 4 * n) * q) :
    (paid + acc / o) * o * q ≤ ex + 2 * n * q ∧ ex < ((paid + acc / o + w + 1) * o + 4 * n) * q := by
  obtain ⟨h1, h2⟩ := whole_tokens paid acc w ho
  exact ⟨Nat.le_trans (Nat.mul_le_mul_right q h1) g1,
    Nat.lt_of_le_of_lt g2 (Nat.mul_lt_mul_of_pos_right (Nat.add_lt_add_right h2 _) hq)⟩

end CwMt.Staking.Arith
