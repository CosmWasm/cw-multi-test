import CwMt.Model.Bech32
/-
  The Bech32 checksum: `step`, `polymod` and `createChecksum` as algebra on `BitVec 30`. Nothing here looks at
  characters or at the bit regrouping.

  The step is `r ↦ r <<< 5 ^^^ e ^^^ feedback (top r)` (`step_eq`), hence linear over GF(2) in state and input
  together; below `2 ^ 25` it appends the input as a base-32 digit (`toNat_step_of_lt`). Everything else follows
  from these two facts and one table (`feedback_low_inj`): that the checksum is the one list of six symbols which
  completes the data to the target residue (`polymod_eq_iff_checksum`), and that the step is injective in each
  argument, so that a changed symbol changes the residue.
-/
namespace CwMt.Bech32

def steps (r : BitVec 30) (vs : List Sym) : BitVec 30 := vs.foldl step r

theorem polymod_eq_steps (vs : List Sym) : polymod vs = steps 1 vs := rfl

theorem steps_append (r : BitVec 30) (xs ys : List Sym) :
    steps r (xs ++ ys) = steps (steps r xs) ys := List.foldl_append

theorem steps_cons (r : BitVec 30) (x : Sym) (xs : List Sym) :
    steps r (x :: xs) = steps (step r x) xs := rfl

/-- the symbol shifted out by the next step -/
def top (r : BitVec 30) : Sym := (r >>> 25).setWidth 5

def feedback (t : Sym) : BitVec 30 :=
  (if t.getLsbD 0 then gen0 else 0) ^^^ (if t.getLsbD 1 then gen1 else 0)
    ^^^ (if t.getLsbD 2 then gen2 else 0) ^^^ (if t.getLsbD 3 then gen3 else 0)
    ^^^ (if t.getLsbD 4 then gen4 else 0)

theorem shl5_or (x : BitVec 30) (e : Sym) : x <<< 5 ||| e.setWidth 30 = x <<< 5 ^^^ e.setWidth 30 := by
  -- at every position one of the two bits is zero: below 5 that of the shifted state, from 5 on that of the symbol
  apply BitVec.eq_of_getLsbD_eq
  intro i _
  rw [BitVec.getLsbD_or, BitVec.getLsbD_xor]
  by_cases h : i < 5
  · rw [BitVec.getLsbD_shiftLeft, decide_eq_true h, Bool.not_true, Bool.and_false, Bool.false_and, Bool.false_or,
      Bool.false_xor]
  · rw [BitVec.getLsbD_setWidth, BitVec.getLsbD_of_ge e i (Nat.le_of_not_lt h), Bool.and_false, Bool.or_false,
      Bool.xor_false]

theorem step_eq (r : BitVec 30) (e : Sym) :
    step r e = r <<< 5 ^^^ e.setWidth 30 ^^^ feedback (top r) := by
  -- the mask only clears the bits that the shift drops
  have mask : (r &&& 0x1ffffff#30) <<< 5 = r <<< 5 := by
    apply BitVec.eq_of_getLsbD_eq
    intro i hi
    have : (0x1ffffff#30).getLsbD (i - 5) = true := by
      rw [show 0x1ffffff#30 = BitVec.ofNat 30 (2 ^ 25 - 1) from rfl, BitVec.getLsbD_ofNat, Nat.testBit_two_pow_sub_one]
      simp only [Bool.and_eq_true, decide_eq_true_eq]; omega
    simp only [BitVec.getLsbD_shiftLeft, BitVec.getLsbD_and, this, Bool.and_true]
  simp only [step, feedback, top, mask, shl5_or, BitVec.xor_assoc, BitVec.getLsbD_setWidth,
    BitVec.getLsbD_ushiftRight, Nat.reduceAdd, Nat.reduceLT, decide_true, Bool.true_and]

/-- the low symbol of the new state is the input plus the low symbol of the feedback: the shifted state has none -/
theorem setWidth_step (r : BitVec 30) (e : Sym) :
    (step r e).setWidth 5 = e ^^^ (feedback (top r)).setWidth 5 := by
  have hl : (r <<< 5).setWidth 5 = 0#5 := by
    apply BitVec.eq_of_toNat_eq
    rw [BitVec.toNat_setWidth, BitVec.toNat_shiftLeft, Nat.shiftLeft_eq,
      Nat.mod_mod_of_dvd _ (Nat.pow_dvd_pow 2 (by decide)), Nat.mul_mod_left]
    rfl
  rw [step_eq, BitVec.setWidth_xor, BitVec.setWidth_xor, hl, BitVec.zero_xor,
    BitVec.setWidth_setWidth_of_le _ (by decide), BitVec.setWidth_eq]

theorem xor_xor_xor_comm (a b c d : BitVec 30) : a ^^^ b ^^^ (c ^^^ d) = a ^^^ c ^^^ (b ^^^ d) := by
  rw [BitVec.xor_assoc, BitVec.xor_assoc, ← BitVec.xor_assoc b, BitVec.xor_comm b c, BitVec.xor_assoc]

theorem feedback_xor (s t : Sym) : feedback (s ^^^ t) = feedback s ^^^ feedback t := by
  -- the row that `p ^^ q` selects is the sum of the rows that `p` and `q` select; `sel'` adds it to two partial sums
  have sel (g : BitVec 30) (p q : Bool) :
      (if (p ^^ q) = true then g else 0) = (if p = true then g else 0) ^^^ (if q = true then g else 0) := by
    cases p <;> cases q <;> simp
  have sel' (g A B : BitVec 30) (p q : Bool) : A ^^^ B ^^^ (if (p ^^ q) = true then g else 0) =
      (A ^^^ if p = true then g else 0) ^^^ (B ^^^ if q = true then g else 0) := by
    rw [sel, xor_xor_xor_comm]
  simp only [feedback, BitVec.getLsbD_xor]
  rw [sel gen0, sel' gen1, sel' gen2, sel' gen3, sel' gen4]

theorem step_linear (a b : BitVec 30) (x y : Sym) :
    step (a ^^^ b) (x ^^^ y) = step a x ^^^ step b y := by
  have top_xor : top (a ^^^ b) = top a ^^^ top b := by
    simp only [top, BitVec.ushiftRight_xor_distrib, BitVec.setWidth_xor]
  simp only [step_eq, BitVec.shiftLeft_xor_distrib, BitVec.setWidth_xor, top_xor, feedback_xor]
  rw [xor_xor_xor_comm (a <<< 5), xor_xor_xor_comm]

theorem steps_xor (xs : List Sym) : ∀ a b : BitVec 30,
    steps (a ^^^ b) xs = steps a (List.replicate xs.length 0#5) ^^^ steps b xs := by
  induction xs with
  | nil => intro a b; rfl
  | cons x xs ih =>
    intro a b
    have h := step_linear a b 0#5 x
    rw [BitVec.zero_xor] at h
    rw [steps_cons, h, ih]
    rfl

theorem steps_affine (S : BitVec 30) (es : List Sym) :
    steps S es = steps S (List.replicate es.length 0#5) ^^^ steps 0#30 es := by
  rw [← steps_xor, BitVec.xor_zero]

theorem top_eq_zero_iff {r : BitVec 30} : top r = 0#5 ↔ r.toNat < 2 ^ 25 := by
  have h : r.toNat / 2 ^ 25 < 2 ^ 5 := Nat.div_lt_of_lt_mul r.isLt
  rw [top, ← BitVec.toNat_inj, BitVec.toNat_setWidth, BitVec.toNat_ushiftRight, Nat.shiftRight_eq_div_pow,
    Nat.mod_eq_of_lt h]
  exact Nat.div_eq_zero_iff_lt (by decide)

theorem toNat_step_of_lt {r : BitVec 30} (e : Sym) (h : r.toNat < 2 ^ 25) :
    (step r e).toNat = 32 * r.toNat + e.toNat := by
  have h1 : r.toNat <<< 5 % 2 ^ 30 = r.toNat <<< 5 :=
    Nat.mod_eq_of_lt (by rw [Nat.shiftLeft_eq]; exact Nat.mul_lt_mul_of_pos_right h (by decide))
  have h2 : e.toNat % 2 ^ 30 = e.toNat := Nat.mod_eq_of_lt (Nat.lt_trans e.isLt (by decide))
  rw [step_eq, top_eq_zero_iff.mpr h, show feedback 0#5 = 0#30 from rfl, BitVec.xor_zero, ← shl5_or,
    BitVec.toNat_or, BitVec.toNat_shiftLeft, BitVec.toNat_setWidth, h1, h2,
    ← Nat.shiftLeft_add_eq_or_of_lt e.isLt, Nat.shiftLeft_eq, Nat.mul_comm]

/-- a step undoes a shift by one symbol -/
theorem step_ushiftRight (r : BitVec 30) (n : Nat) :
    step (r >>> (n + 5)) ((r >>> n).setWidth 5) = r >>> n := by
  -- the state is the quotient of `r >>> n` by `2 ^ 5` and the symbol the remainder
  have hq : r.toNat >>> n < 2 ^ 30 := Nat.lt_of_le_of_lt (Nat.shiftRight_le _ _) r.isLt
  have hs : (r >>> (n + 5)).toNat = r.toNat >>> n / 2 ^ 5 := by
    rw [BitVec.toNat_ushiftRight, Nat.shiftRight_add, Nat.shiftRight_eq_div_pow _ 5]
  apply BitVec.eq_of_toNat_eq
  rw [toNat_step_of_lt, BitVec.toNat_setWidth, hs, BitVec.toNat_ushiftRight]
  · exact Nat.div_add_mod _ _
  · rw [hs]; exact Nat.div_lt_of_lt_mul hq

theorem steps_zero_unpack6 (r : BitVec 30) : steps 0#30 (unpack6 r) = r := by
  -- with the start written as `r >>> 30` and the last symbol as that of `r >>> 0`, each of the six steps is
  -- `step_ushiftRight`
  have h0 : (0#30) = r >>> (25 + 5) := (BitVec.ushiftRight_eq_zero (by decide)).symm
  have h5 : r.setWidth 5 = (r >>> 0).setWidth 5 := rfl
  rw [unpack6, h5, h0]
  simp only [steps, List.foldl, step_ushiftRight]
  rfl

theorem step_inj_of_lt {r r' : BitVec 30} {e e' : Sym} (h : r.toNat < 2 ^ 25) (h' : r'.toNat < 2 ^ 25)
    (hs : step r e = step r' e') : r = r' ∧ e = e' := by
  have hn := congrArg BitVec.toNat hs
  rw [toNat_step_of_lt e h, toNat_step_of_lt e' h'] at hn
  -- the states are the quotients by 32, the symbols the remainders
  have he : e.toNat < 32 := e.isLt
  have he' : e'.toNat < 32 := e'.isLt
  have hq := congrArg (· / 32) hn
  have hm := congrArg (· % 32) hn
  simp only [Nat.mul_add_div (show 32 > 0 by decide), Nat.mul_add_mod, Nat.div_eq_of_lt he, Nat.div_eq_of_lt he',
    Nat.mod_eq_of_lt he, Nat.mod_eq_of_lt he', Nat.add_zero] at hq hm
  exact ⟨BitVec.eq_of_toNat_eq hq, BitVec.eq_of_toNat_eq hm⟩

/-- `k` counts the base-32 digits the state already holds; six digits fill the 30 bits, so as long as
`k + es.length ≤ 6` no step shifts anything out -/
theorem steps_inj_of_lt {es es' : List Sym} {r r' : BitVec 30} {k : Nat} (hl : es.length = es'.length)
    (hr : r.toNat < 32 ^ k) (hr' : r'.toNat < 32 ^ k) (hk : k + es.length ≤ 6) (h : steps r es = steps r' es') :
    r = r' ∧ es = es' := by
  induction es generalizing es' r r' k with
  | nil =>
    cases es' with
    | nil => exact ⟨h, rfl⟩
    | cons _ _ => cases hl
  | cons e es ih =>
    cases es' with
    | nil => cases hl
    | cons e' es' =>
      rw [List.length_cons] at hk
      -- a state below `32 ^ k` is below `2 ^ 25`, and the next one is below `32 ^ (k + 1)`
      have bound (r : BitVec 30) (e : Sym) (hr : r.toNat < 32 ^ k) :
          r.toNat < 2 ^ 25 ∧ (step r e).toNat < 32 ^ (k + 1) := by
        have h25 : r.toNat < 2 ^ 25 :=
          Nat.lt_of_lt_of_le hr (Nat.pow_le_pow_right (n := 32) (by decide) (show k ≤ 5 by omega))
        refine ⟨h25, ?_⟩
        -- `32 * r + e < 32 * r + 32 = 32 * (r + 1) ≤ 32 * 32 ^ k`
        rw [toNat_step_of_lt e h25, Nat.pow_succ, Nat.mul_comm (32 ^ k)]
        exact Nat.lt_of_lt_of_le (Nat.add_lt_add_left e.isLt _) (Nat.mul_le_mul_left 32 hr)
      obtain ⟨h1, rfl⟩ := ih (Nat.succ.inj hl) (bound r e hr).2 (bound r' e' hr').2 (by omega) h
      obtain ⟨rfl, rfl⟩ := step_inj_of_lt (bound r e hr).1 (bound r' e' hr').1 h1
      exact ⟨rfl, rfl⟩

theorem steps_zero_eq_iff {c6 : List Sym} (hl : c6.length = 6) {r : BitVec 30} :
    steps 0#30 c6 = r ↔ c6 = unpack6 r := by
  refine ⟨fun h => ?_, fun h => h ▸ steps_zero_unpack6 r⟩
  exact (steps_inj_of_lt (es' := unpack6 r) (k := 0) hl (by decide) (by decide) (by omega)
    (h.trans (steps_zero_unpack6 r).symm)).2

/-! ### the checksum: six symbols `c6` move a state `S` to `steps S zeros ^^^ steps 0 c6` (`steps_affine`), and `unpack6`
inverts `steps 0` on six symbols; so exactly one `c6` moves `S` to the target residue -/

theorem createChecksum_eq (k : BitVec 30) (h : List Char) (data : List Sym) :
    createChecksum k h data =
      unpack6 (steps (polymod (hrpExpand h ++ data)) (List.replicate 6 0#5) ^^^ k) := by
  show unpack6 (steps _ (unpack6 k)) = _
  rw [steps_affine, steps_zero_unpack6]; rfl

theorem createChecksum_length (k : BitVec 30) (h : List Char) (data : List Sym) :
    (createChecksum k h data).length = 6 := rfl

theorem xor_eq_iff {a b c : BitVec 30} : a ^^^ b = c ↔ b = a ^^^ c := by
  constructor <;> rintro rfl <;> rw [← BitVec.xor_assoc, BitVec.xor_self, BitVec.zero_xor]

theorem polymod_eq_iff_checksum {k : BitVec 30} {h : List Char} {data c6 : List Sym} (hl : c6.length = 6) :
    polymod (hrpExpand h ++ (data ++ c6)) = k ↔ c6 = createChecksum k h data := by
  rw [← List.append_assoc, polymod_eq_steps, steps_append, ← polymod_eq_steps, steps_affine, hl, createChecksum_eq,
    xor_eq_iff, steps_zero_eq_iff hl]

theorem checksum_verifies (k : BitVec 30) (h : List Char) (data : List Sym) :
    polymod (hrpExpand h ++ (data ++ createChecksum k h data)) = k :=
  (polymod_eq_iff_checksum rfl).mpr rfl

theorem step_inj_sym {a : BitVec 30} {x y : Sym} (h : step a x = step a y) : x = y := by
  have := congrArg (BitVec.setWidth 5) h
  rwa [setWidth_step, setWidth_step, BitVec.xor_left_inj] at this

/-- the low symbols of the five generator rows are linearly independent (the constant term of the generator
polynomial is not zero); a table over the 32 values of `t` -/
theorem feedback_low_inj : ∀ t : Sym, (feedback t).setWidth 5 = 0#5 → t = 0#5 := by decide +kernel

theorem step_zero_ker {d : BitVec 30} (h : step d 0#5 = 0#30) : d = 0#30 := by
  -- the low symbol of `step d 0` is that of `feedback (top d)`, so `top d = 0` by the table; then nothing is shifted out,
  -- the step multiplies by 32, and `d = 0`
  have ht : top d = 0#5 := by
    apply feedback_low_inj
    have := congrArg (BitVec.setWidth 5) h
    rwa [setWidth_step, BitVec.zero_xor] at this
  have hs := toNat_step_of_lt 0#5 (top_eq_zero_iff.mp ht)
  rw [h] at hs
  apply BitVec.eq_of_toNat_eq
  exact (Nat.mul_eq_zero.mp hs.symm).resolve_left (by decide)

theorem step_inj_state {a b : BitVec 30} {x : Sym} (h : step a x = step b x) : a = b := by
  have h1 := step_linear a b x x
  rw [h, BitVec.xor_self, BitVec.xor_self] at h1
  exact BitVec.xor_eq_zero_iff.mp (step_zero_ker h1)

theorem steps_inj_state {xs : List Sym} {a b : BitVec 30} (h : steps a xs = steps b xs) : a = b := by
  induction xs generalizing a b with
  | nil => exact h
  | cons x xs ih => exact step_inj_state (ih h)

end CwMt.Bech32
