import CwMt.Model.EngineSpec
/-
  CwMt.Proofs.EngineB_Validate — response validation (`verify_attributes` / `verify_response`; C13): what `trimChars`
  removes, `responseOk` as a condition on the trimmed keys and event types, and that it reads no attribute value.
-/
namespace CwMt.EngineB
open CwMt

theorem trim_spec (cs : List Char) :
    ∃ pre post, cs = pre ++ trimChars cs ++ post ∧ (∀ c ∈ pre, isWhite c = true) ∧ (∀ c ∈ post, isWhite c = true) ∧
      (∀ c, (trimChars cs).head? = some c → isWhite c = false) ∧
      (∀ c, (trimChars cs).getLast? = some c → isWhite c = false) := by
  have hd : cs.dropWhile isWhite =
      trimChars cs ++ ((cs.dropWhile isWhite).reverse.takeWhile isWhite).reverse := by
    have h := @List.takeWhile_append_dropWhile _ isWhite (cs.dropWhile isWhite).reverse
    have h2 := congrArg List.reverse h
    rw [List.reverse_append, List.reverse_reverse] at h2
    exact h2.symm
  have hfirst : ∀ (l : List Char) c, (l.dropWhile isWhite).head? = some c → isWhite c = false := fun l c h => by
    have := List.head?_dropWhile_not isWhite l
    rwa [h] at this
  refine ⟨cs.takeWhile isWhite, ((cs.dropWhile isWhite).reverse.takeWhile isWhite).reverse, ?_, ?_, ?_, ?_, ?_⟩
  · rw [List.append_assoc, ← hd, List.takeWhile_append_dropWhile]
  · exact List.all_eq_true.1 List.all_takeWhile
  · intro c hc
    exact List.all_eq_true.1 List.all_takeWhile c (List.mem_reverse.1 hc)
  · intro c hc
    apply hfirst cs c
    rw [hd, List.head?_append, hc]
    rfl
  · intro c hc
    unfold trimChars at hc
    rw [List.getLast?_reverse] at hc
    exact hfirst _ c hc

theorem attrOk_iff (a : Attr) : attrOk a = true ↔ KeyOK a.key := by
  unfold attrOk KeyOK
  simp only [Bool.and_eq_true, Bool.not_eq_true', ne_eq, ← String.isEmpty_iff, Bool.not_eq_true]

theorem responseOk_eq (r : Response) : responseOk r = (r.attrs.all attrOk && r.events.all eventOk) := by rfl

theorem verify_iff (r : Response) :
    responseOk r = true ↔
      ((∀ a ∈ r.attrs, KeyOK a.key) ∧
       ∀ e ∈ r.events, (∀ a ∈ e.attrs, KeyOK a.key) ∧ 2 ≤ (rtrim e.ty).utf8ByteSize) := by
  rw [responseOk_eq]
  unfold eventOk
  simp only [Bool.and_eq_true, List.all_eq_true, attrOk_iff, decide_eq_true_eq]

theorem attrOk_value (a : Attr) (v : String) : attrOk { a with value := v } = attrOk a := by rfl

theorem eventOk_values (f : String → String) (e : Event) :
    eventOk { e with attrs := e.attrs.map fun a => { a with value := f a.value } } = eventOk e := by
  simp only [eventOk, List.all_map, Function.comp_def, attrOk_value]

end CwMt.EngineB
