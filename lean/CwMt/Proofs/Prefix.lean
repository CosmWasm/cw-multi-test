import CwMt.Model.Prefix
import CwMt.Proofs.Store
import CwMt.Proofs.Outcome
/-
  CwMt.Proofs.Prefix — namespaced storage views, on top of the `Store` lemmas: the `get` of a window is the base's at
  the prefixed key (`get_window`), which with `Store.ext_get` settles what a write through a view does to its window;
  the length-prefixed code of namespace paths is prefix-free; a write through one view leaves every disjoint window
  the same store (at the end, in `CwMt.Flat`).
-/
namespace CwMt.Prefix

theorem klt_asymm {a b : Key} (h : a < b) : ¬ b < a := List.lt_asymm h

theorem kle_iff {a b : Key} : a ≤ b ↔ a < b ∨ a = b := List.le_iff_lt_or_eq

theorem klt_ne {a b : Key} (h : a < b) : a ≠ b := Std.ne_of_lt h

/-- `a ≤ b` on lists is by definition `¬ b < a`, so the two directions are the two core lemmas -/
theorem append_lt_append_iff (p s t : Key) : p ++ s < p ++ t ↔ s < t :=
  ⟨fun h => Decidable.by_contra fun n => List.append_left_le (l₁ := p) (Key.not_lt.1 n) h,
    List.append_left_lt⟩

theorem append_le_append_iff (p s t : Key) : p ++ s ≤ p ++ t ↔ s ≤ t :=
  not_congr (append_lt_append_iff p t s)

theorem hasPrefix_iff {pfx k : Key} : hasPrefix pfx k = true ↔ ∃ t, k = pfx ++ t := by
  unfold hasPrefix
  rw [List.isPrefixOf_iff_prefix]
  exact ⟨fun ⟨t, h⟩ => ⟨t, h.symm⟩, fun ⟨t, h⟩ => ⟨t, h.symm⟩⟩

theorem hasPrefix_append (pfx t : Key) : hasPrefix pfx (pfx ++ t) = true :=
  hasPrefix_iff.2 ⟨t, rfl⟩

theorem hasPrefix_cases (pfx k : Key) : (∃ t, k = pfx ++ t) ∨ hasPrefix pfx k = false := by
  cases h : hasPrefix pfx k
  · exact Or.inr rfl
  · exact Or.inl (hasPrefix_iff.1 h)

theorem hasPrefix_append_append (pp pr k : Key) :
    hasPrefix (pp ++ pr) k = (hasPrefix pp k && hasPrefix pr (k.drop pp.length)) := by
  unfold hasPrefix
  induction pp generalizing k with
  | nil => simp
  | cons a pp ih =>
    cases k with
    | nil => simp [List.isPrefixOf]
    | cons c k => simp [List.isPrefixOf, ih, Bool.and_assoc]

theorem toLP_eq (a : List UInt8) : toLP a =
    if a.length ≤ 65535 then .ok ([UInt8.ofNat (a.length / 256), UInt8.ofNat (a.length % 256)] ++ a)
    else .panic := by
  unfold toLP encodeLength
  by_cases h : a.length ≤ 65535
  · rw [if_neg (Nat.not_lt.2 h), if_pos h]; rfl
  · rw [if_pos (Nat.not_le.1 h), if_neg h]; rfl

theorem toLP_of_le (a : List UInt8) (h : a.length ≤ 65535) :
    toLP a = .ok ([UInt8.ofNat (a.length / 256), UInt8.ofNat (a.length % 256)] ++ a) :=
  (toLP_eq a).trans (if_pos h)

theorem toLP_ok {a : List UInt8} {pa : Key} (h : toLP a = .ok pa) :
    a.length ≤ 65535 ∧
      pa = [UInt8.ofNat (a.length / 256), UInt8.ofNat (a.length % 256)] ++ a := by
  rw [toLP_eq] at h
  split at h
  · next hl => exact ⟨hl, (Outcome.ok.inj h).symm⟩
  · cases h

theorem _root_.UInt8.ofNat_inj_of_lt {n m : Nat} (hn : n < 256) (hm : m < 256)
    (h : UInt8.ofNat n = UInt8.ofNat m) : n = m := by
  rw [← UInt8.toNat_ofNat_of_lt' hn, h, UInt8.toNat_ofNat_of_lt' hm]

/-- the two length bytes determine a length below 65536, and the length says where the segment ends -/
theorem toLP_prefix_free {a b : List UInt8} {pa pb x y : Key}
    (ha : toLP a = .ok pa) (hb : toLP b = .ok pb) (h : pa ++ x = pb ++ y) : a = b ∧ x = y := by
  obtain ⟨hla, rfl⟩ := toLP_ok ha
  obtain ⟨hlb, rfl⟩ := toLP_ok hb
  obtain ⟨h1, h⟩ := List.cons.inj h
  obtain ⟨h2, h3⟩ := List.cons.inj h
  have e1 := UInt8.ofNat_inj_of_lt (Nat.div_lt_of_lt_mul (Nat.lt_succ_of_le hla)) (Nat.div_lt_of_lt_mul (Nat.lt_succ_of_le hlb)) h1
  have e2 := UInt8.ofNat_inj_of_lt (Nat.mod_lt _ (by decide)) (Nat.mod_lt _ (by decide)) h2
  have hl : a.length = b.length := by rw [← Nat.div_add_mod a.length 256, e1, e2, Nat.div_add_mod]
  exact List.append_inj h3 hl

theorem toLPNested_cons_ok_iff {a : List UInt8} {p : List (List UInt8)} {pp : Key} :
    toLPNested (a :: p) = .ok pp ↔ ∃ pa, toLP a = .ok pa ∧ ∃ pp', toLPNested p = .ok pp' ∧ pa ++ pp' = pp := by
  simp only [toLPNested, Outcome.bind_ok_iff, Outcome.map_ok_iff]

theorem toLPNested_prefix_comparable {p q : List (List UInt8)} {pp pq k : Key}
    (hp : toLPNested p = .ok pp) (hq : toLPNested q = .ok pq)
    (hkp : pp <+: k) (hkq : pq <+: k) : p <+: q ∨ q <+: p := by
  induction p generalizing q pp pq k with
  | nil => exact Or.inl (List.nil_prefix)
  | cons a p ih =>
    cases q with
    | nil => exact Or.inr (List.nil_prefix)
    | cons b q =>
      obtain ⟨pa, ha, pp', hp', rfl⟩ := toLPNested_cons_ok_iff.1 hp
      obtain ⟨pb, hb, pq', hq', rfl⟩ := toLPNested_cons_ok_iff.1 hq
      obtain ⟨z, hz⟩ := hkp
      obtain ⟨z', hz'⟩ := hkq
      have he : pa ++ (pp' ++ z) = pb ++ (pq' ++ z') := by
        rw [← List.append_assoc, ← List.append_assoc, hz, hz']
      obtain ⟨rfl, he'⟩ := toLP_prefix_free ha hb he
      exact (ih hp' hq' ⟨z, rfl⟩ ⟨z', he'.symm⟩).imp
        (fun h => List.cons_prefix_cons.2 ⟨rfl, h⟩) (fun h => List.cons_prefix_cons.2 ⟨rfl, h⟩)

theorem toLPNested_append {p r : List (List UInt8)} {pp pr : Key}
    (hp : toLPNested p = .ok pp) (hr : toLPNested r = .ok pr) :
    toLPNested (p ++ r) = .ok (pp ++ pr) := by
  induction p generalizing pp with
  | nil =>
    cases hp
    exact hr
  | cons a p ih =>
    obtain ⟨pa, ha, pp', hp', rfl⟩ := toLPNested_cons_ok_iff.1 hp
    exact toLPNested_cons_ok_iff.2 ⟨pa, ha, _, ih hp', (List.append_assoc ..).symm⟩

theorem window_append (pp pr : Key) (base : Store Val) :
    window (pp ++ pr) base = window pr (window pp base) := by
  unfold window
  rw [List.filter_map, List.filter_filter, List.map_map]
  congr 1
  · funext a
    simp only [Function.comp, List.drop_drop, List.length_append]
  · exact List.filter_congr fun a _ => by
      simp only [Function.comp, hasPrefix_append_append, Bool.and_comm]

theorem window_nil (pfx : Key) : window pfx ([] : Store Val) = [] := rfl

theorem window_cons_pos (pfx t : Key) (v : Val) (m : Store Val) :
    window pfx ((pfx ++ t, v) :: m) = (t, v) :: window pfx m := by
  simp [window, hasPrefix_append]

theorem window_cons_neg {pfx k' : Key} (v : Val) (m : Store Val) (h : hasPrefix pfx k' = false) :
    window pfx ((k', v) :: m) = window pfx m := by
  simp [window, h]

theorem sorted_window {base : Store Val} (h : base.Sorted) (pfx : Key) : (window pfx base).Sorted := by
  unfold Store.Sorted window at *
  rw [List.pairwise_map, List.pairwise_filter]
  refine h.imp fun {a b} hab ha hb => ?_
  obtain ⟨ta, hta⟩ := hasPrefix_iff.1 ha
  obtain ⟨tb, htb⟩ := hasPrefix_iff.1 hb
  rw [hta, htb] at hab ⊢
  rw [List.drop_left, List.drop_left]
  exact (append_lt_append_iff pfx ta tb).1 hab

theorem get_window (base : Store Val) (pfx k : Key) :
    (window pfx base).get k = base.get (pfx ++ k) := by
  induction base with
  | nil => rfl
  | cons p m ih =>
    obtain ⟨k', v'⟩ := p
    rcases hasPrefix_cases pfx k' with ⟨t, rfl⟩ | hp
    · simp only [window_cons_pos, Store.get_cons, ih, List.append_cancel_left_eq]
    · rw [window_cons_neg _ _ hp, Store.get_cons, ih, if_neg]
      exact fun e => by rw [e, hasPrefix_append] at hp; cases hp

theorem window_set {base : Store Val} (h : base.Sorted) (pfx k : Key) (v : Val) :
    window pfx (View.set base pfx k v) = (window pfx base).set k v := by
  apply Store.ext_get (sorted_window (Store.sorted_set h _ _) _) (Store.sorted_set (sorted_window h _) _ _)
  intro k'
  simp only [get_window, Store.get_set, List.append_cancel_left_eq]

theorem window_remove (base : Store Val) (pfx k : Key) :
    window pfx (View.remove base pfx k) = (window pfx base).remove k := by
  unfold View.remove
  generalize hr : pfx ++ k = r
  fun_induction Store.remove base r with
  | case1 => rfl
  | case2 v m r => subst hr; rw [window_cons_pos]; exact (if_pos rfl).symm
  | case3 k' v m r hne ih =>
    subst hr
    rcases hasPrefix_cases pfx k' with ⟨t, rfl⟩ | hp
    · rw [window_cons_pos, window_cons_pos, ih rfl]
      exact (if_neg fun (e : t = k) => hne (by rw [e])).symm
    · rw [window_cons_neg _ _ hp, window_cons_neg _ _ hp, ih rfl]

theorem reverse_append_lt_upperRev (r t : Key) (hne : r.all (· == 255) = false) :
    r.reverse ++ t < (upperRev r).reverse := by
  fun_induction upperRev r generalizing t with
  | case1 => cases hne
  | case2 r ih =>
    -- a trailing 0xFF becomes 0x00 and the carry goes on: the rest already decides (`hne` speaks of the rest by evaluation)
    rw [List.reverse_cons, List.append_assoc, List.reverse_cons]
    exact Std.lt_of_lt_of_le (ih _ hne) List.le_append_left
  | case3 b r hb =>
    rw [List.reverse_cons, List.append_assoc, List.reverse_cons]
    exact List.append_left_lt (List.cons_lt_cons_iff.2 (Or.inl (UInt8.lt_add_one hb)))

theorem append_lt_upperBound (pfx t : Key) (hne : allFF pfx = false) :
    pfx ++ t < namespaceUpperBound pfx := by
  unfold namespaceUpperBound
  have := reverse_append_lt_upperRev pfx.reverse t (by rw [List.all_reverse]; exact hne)
  simpa using this

theorem inBounds_raw (pfx t : Key) (s e : Option Key) :
    inBounds (some (View.rawStart pfx s)) (View.rawEnd pfx e) (pfx ++ t) = inBounds s e t := by
  unfold inBounds
  congr 1
  · cases s with
    | none => exact decide_eq_true List.le_append_left
    | some s => exact decide_eq_decide.2 (append_le_append_iff pfx s t)
  · cases e with
    | some e => exact decide_eq_decide.2 (append_lt_append_iff pfx t e)
    | none =>
      rw [View.rawEnd]
      cases hff : allFF pfx with
      | true => rfl
      | false => exact decide_eq_true (append_lt_upperBound pfx t hff)

theorem filter_window (base : Store Val) (pfx : Key) (s e : Option Key) :
    ((base.filter (fun p => inBounds (some (View.rawStart pfx s)) (View.rawEnd pfx e) p.1)).filter
        (fun p => hasPrefix pfx p.1)).map (fun p => (p.1.drop pfx.length, p.2))
      = (window pfx base).filter (fun p => inBounds s e p.1) := by
  unfold window
  rw [List.filter_map, List.filter_filter, List.filter_filter]
  congr 1
  apply List.filter_congr
  intro a _
  rcases hasPrefix_cases pfx a.1 with ⟨t, ht⟩ | hp
  · simp only [Function.comp, ht, inBounds_raw, List.drop_left, hasPrefix_append, Bool.true_and,
      Bool.and_true]
  · simp only [hp, Bool.false_and, Bool.and_false]

theorem range_exact (base : Store Val) (_h : base.Sorted) (pfx : Key) (s e : Option Key)
    (o : Order) : View.range base pfx s e o = (window pfx base).range s e o := by
  -- sortedness is not needed: the two sides filter the same list, whatever its order
  unfold View.range Store.range
  cases o with
  | asc => exact filter_window base pfx s e
  | desc =>
    simp only [List.filter_reverse, List.map_reverse]
    rw [filter_window]

end CwMt.Prefix

/-! The code keeps ONE `Storage`; every component of the model's `Chain` (`bank`, `contracts`, `cstore[a]`, staking …) is a
namespaced window of it. A write through one window is that write on its component and leaves every disjoint window the
same STORE, not only the same key by key; with the disjointness of the chain's namespaces (`Proofs/Layout.lean`) this is
what lets the model keep the components apart. -/

namespace CwMt.Flat
open CwMt Prefix

theorem window_set_other (base : Store Val) (q r : Key) (v : Val) (h : hasPrefix q r = false) :
    window q (Store.set base r v) = window q base :=
  congrArg (List.map _) (Store.filter_set_of_not base (hasPrefix q) v h)

theorem window_remove_other (base : Store Val) (q r : Key) (h : hasPrefix q r = false) :
    window q (Store.remove base r) = window q base :=
  congrArg (List.map _) (Store.filter_remove_of_not base (hasPrefix q) h)

def Disjoint (p q : Key) : Prop := ∀ k : Key, p <+: k → q <+: k → False

theorem hasPrefix_false_of_disjoint {p q : Key} (h : Disjoint p q) (k : Key) : hasPrefix q (p ++ k) = false :=
  Bool.eq_false_iff.mpr fun hq =>
    let ⟨t, ht⟩ := hasPrefix_iff.1 hq
    h (p ++ k) (List.prefix_append p k) ⟨t, ht.symm⟩

theorem write_refines {raw : Store Val} (hs : raw.Sorted) (p k : Key) (v : Val) :
    window p (View.set raw p k v) = (window p raw).set k v ∧
    ∀ q, Disjoint p q → window q (View.set raw p k v) = window q raw :=
  ⟨window_set hs p k v, fun q hq => window_set_other raw q (p ++ k) v (hasPrefix_false_of_disjoint hq k)⟩

theorem remove_refines (raw : Store Val) (p k : Key) :
    window p (View.remove raw p k) = (window p raw).remove k ∧
    ∀ q, Disjoint p q → window q (View.remove raw p k) = window q raw :=
  ⟨window_remove raw p k, fun q hq => window_remove_other raw q (p ++ k) (hasPrefix_false_of_disjoint hq k)⟩

end CwMt.Flat
