import CwMt.Proofs.Overlay
import CwMt.Model.Client
/-
  CwMt.Proofs.Client — whole clients of the storage interface refine ordered-map semantics:
  one induction over the client (`Client.simulates_in_frame`, read in the model's terms by `Client.simulates`),
  and `transactional` at the root store.
-/
namespace CwMt

theorem Stack.beneath_eq_discard (st : Stack) : st.beneath = st.discard := by
  cases st <;> rfl

theorem WF.beneath (st : Stack) (h : WF st) : WF st.beneath := by
  rw [Stack.beneath_eq_discard]; exact WF.discard st h

theorem Stack.beneath_push (st : Stack) : st.push.beneath = st := rfl

/-- what every step of a run keeps: writes and commits touch the top layer only (at a root, `beneath` is the root itself,
which a write changes: hence the guard) -/
def SameFrame (st st' : Stack) : Prop :=
  st'.depth = st.depth ∧ (0 < st.depth → st'.beneath = st.beneath)

theorem SameFrame.refl (st : Stack) : SameFrame st st := ⟨rfl, fun _ => rfl⟩

theorem SameFrame.trans {a b c : Stack} (h₁ : SameFrame a b) (h₂ : SameFrame b c) :
    SameFrame a c :=
  ⟨h₂.1.trans h₁.1, fun h => (h₂.2 (h₁.1 ▸ h)).trans (h₁.2 h)⟩

theorem SameFrame.root {m : Store Val} {st' : Stack} (h : SameFrame (.root m) st') : st' = .root (abs st') := by
  cases st' with
  | root m' => rfl
  | layer b l => exact absurd h.1 (Nat.succ_ne_zero _)

theorem SameFrame.layer {b : Stack} {l : Layer} {st' : Stack} (h : SameFrame (.layer b l) st') :
    ∃ l', st' = .layer b l' := by
  cases st' with
  | root m' => exact absurd h.1.symm (Nat.succ_ne_zero _)
  | layer b' l' => exact ⟨l', congrArg (Stack.layer · l') (h.2 (Nat.succ_pos _))⟩

theorem SameFrame.applyOp (st : Stack) (op : Op) : SameFrame st (st.applyOp op) := by
  cases st
  · rw [Stack.applyOp_root]; exact ⟨rfl, nofun⟩
  · rw [Stack.applyOp_layer]; exact ⟨rfl, fun _ => rfl⟩

theorem SameFrame.set (st : Stack) (k : Key) (v : Val) : SameFrame st (st.set k v) :=
  SameFrame.applyOp st (.set k v)

theorem SameFrame.remove (st : Stack) (k : Key) : SameFrame st (st.remove k) :=
  SameFrame.applyOp st (.del k)

theorem SameFrame.applyLog (log : List Op) (st : Stack) : SameFrame st (st.applyLog log) :=
  List.foldlRecOn log _ (SameFrame.refl st) fun st' h op _ => h.trans (SameFrame.applyOp st' op)

theorem Stack.commit_layer_root {m : Store Val} {l : Layer} (h : WF (.layer (.root m) l)) :
    Stack.commit (.layer (.root m) l) = .root (abs (.layer (.root m) l)) :=
  (SameFrame.applyLog l.log (.root m)).root.trans (congrArg Stack.root (Stack.abs_commit h))

/-- the map base reads see, for a stack of that frame whose current map is `cur` -/
def Stack.baseAt : Stack → Store Val → Store Val
  | .root _, cur => cur
  | .layer b _, _ => abs b

theorem SameFrame.abs_beneath {st st' : Stack} (h : SameFrame st st') : abs st'.beneath = st.baseAt (abs st') := by
  cases st
  · rw [h.root]; rfl
  · obtain ⟨l', rfl⟩ := h.layer; rfl

namespace Client
variable {R : Type}

/-- `runPure` and `runPureRoot` in one: base reads see `base cur`, a constant for code on a cache
(`runAt_const`) and the current map itself for code on the root store (`runAt_id`). -/
def runAt : Client R → (Store Val → Store Val) → Store Val → R × Store Val
  | done r, _, cur => (r, cur)
  | get k cont, base, cur => (cont (cur.get k)).runAt base cur
  | range s e o cont, base, cur => (cont (cur.range s e o)).runAt base cur
  | set k v cont, base, cur => cont.runAt base (cur.set k v)
  | remove k cont, base, cur => cont.runAt base (cur.remove k)
  | getBase k cont, base, cur => (cont ((base cur).get k)).runAt base cur
  | rangeBase s e o cont, base, cur => (cont ((base cur).range s e o)).runAt base cur
  | sub body cont, base, cur =>
    match body.runPure cur cur with
    | (some x, m) => (cont (some x)).runAt base m
    | (none, _) => (cont none).runAt base cur

theorem runAt_const (c : Client R) (b cur : Store Val) : c.runAt (fun _ => b) cur = c.runPure b cur := by
  induction c generalizing cur with
  | done r => rfl
  | get _ _ ih | range _ _ _ _ ih | getBase _ _ ih | rangeBase _ _ _ _ ih => exact ih _ cur
  | set _ _ _ ih | remove _ _ ih => exact ih _
  | sub body cont _ ih => rw [runAt, runPure]; rcases body.runPure cur cur with ⟨_ | x, m⟩ <;> exact ih _ _

theorem runAt_id (c : Client R) (cur : Store Val) : c.runAt (fun m => m) cur = c.runPureRoot cur := by
  induction c generalizing cur with
  | done r => rfl
  | get _ _ ih | range _ _ _ _ ih | getBase _ _ ih | rangeBase _ _ _ _ ih => exact ih _ cur
  | set _ _ _ ih | remove _ _ ih => exact ih _
  | sub body cont _ ih => rw [runAt, runPureRoot]; rcases body.runPure cur cur with ⟨_ | x, m⟩ <;> exact ih _ _

theorem runSpec_eq_runAt (c : Client R) (st : Stack) : c.runSpec st = c.runAt st.baseAt (abs st) := by
  cases st
  · exact (runAt_id c _).symm
  · exact (runAt_const c _ _).symm

/-- the induction behind `simulates`, from any stack `st` in the frame of a reference stack `st₀`: the base that `runAt`
reads depends on the frame only (`SameFrame.abs_beneath`), every step keeps the frame, so `st₀` stays while `st` moves -/
theorem simulates_in_frame {c : Client R} {st₀ st : Stack} (hf : SameFrame st₀ st) (h : WF st) {r : R} {st' : Stack}
    (hr : c.runStack st = (r, st')) :
    WF st' ∧ SameFrame st₀ st' ∧ c.runAt st₀.baseAt (abs st) = (r, abs st') := by
  induction c generalizing st₀ st st' with
  | done r =>
    cases hr
    exact ⟨h, hf, rfl⟩
  | get k cont ih =>
    rw [runAt, ← Stack.get_eq_abs h]
    exact ih _ hf h hr
  | range s e o cont ih =>
    rw [runAt, ← Stack.range_eq_abs h]
    exact ih _ hf h hr
  | set k v cont ih =>
    rw [runAt, ← Stack.abs_set h]
    exact ih (hf.trans (SameFrame.set st k v)) (WF.set st h k v) hr
  | remove k cont ih =>
    rw [runAt, ← Stack.abs_remove h]
    exact ih (hf.trans (SameFrame.remove st k)) (WF.remove st h k) hr
  | getBase k cont ih =>
    rw [runAt, ← hf.abs_beneath, ← Stack.get_eq_abs (WF.beneath st h)]
    exact ih _ hf h hr
  | rangeBase s e o cont ih =>
    rw [runAt, ← hf.abs_beneath, ← Stack.range_eq_abs (WF.beneath st h)]
    exact ih _ hf h hr
  | sub body cont ihb ihc =>
    -- the body runs on a fresh cache over `st`, a frame of its own, and leaves a cache `l1` over the same `st`
    rcases hp : body.runStack st.push with ⟨ox, st1⟩
    obtain ⟨hw1, hf1, hs1⟩ := ihb (SameFrame.refl _) (WF.push st h) hp
    obtain ⟨l1, rfl⟩ := hf1.layer
    have hb : body.runPure (abs st) (abs st) = (ox, abs (.layer st l1)) := (runAt_const ..).symm.trans hs1
    rw [runStack, hp] at hr
    rw [runAt, hb]
    cases ox with
    | none => exact ihc none hf h hr
    | some x =>
      -- committing `l1` keeps the frame of `st` and makes it denote what the cache denoted
      rw [← Stack.abs_commit hw1]
      exact ihc (some x) (hf.trans (SameFrame.applyLog l1.log st)) (WF.commit _ hw1) hr

theorem simulates {c : Client R} {st : Stack} (h : WF st) {r : R} {st' : Stack} (hr : c.runStack st = (r, st')) :
    WF st' ∧ SameFrame st st' ∧ c.runSpec st = (r, abs st') := by
  rw [runSpec_eq_runAt]
  exact simulates_in_frame (SameFrame.refl st) h hr

theorem sub_at_root {X : Type} (body : Client (Option X)) (cont : Option X → Client R)
    (m : Store Val) (hm : m.Sorted) :
    (sub body cont).runStack (.root m) =
      match body.runPure m m with
      | (some x, m') => (cont (some x)).runStack (.root m')
      | (none, _) => (cont none).runStack (.root m) := by
  rcases hp : body.runStack (Stack.root m).push with ⟨ox, st1⟩
  obtain ⟨hw1, hf1, hs1⟩ := simulates (WF.push (.root m) hm) hp
  obtain ⟨l1, rfl⟩ := hf1.layer
  rw [runStack, hp, show body.runPure m m = _ from hs1]
  cases ox with
  | none => rfl
  | some x => exact congrArg _ (Stack.commit_layer_root hw1)

theorem transactional_atomic_at_root {X : Type} (body : Client (Option X)) (m : Store Val)
    (hm : m.Sorted) :
    (sub body done).runStack (.root m) =
      match body.runPure m m with
      | (some x, m') => (some x, .root m')
      | (none, _) => (none, .root m) := by
  rw [sub_at_root body done m hm]
  rcases body.runPure m m with ⟨ox, m'⟩
  cases ox <;> rfl

end Client
end CwMt
