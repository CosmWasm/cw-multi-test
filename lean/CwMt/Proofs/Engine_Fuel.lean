import CwMt.Proofs.Engine_Call
/-
  CwMt.Proofs.Engine_Fuel — once a result other than `outOfFuel` is reached, more fuel changes nothing (`fuel_le`):
  `FuelLe` relates a run to the same run with more fuel, `handle` preserves it, and every step of the four engine
  functions is a `handle` of steps at the fuel below.
-/
namespace CwMt.Engine
open CwMt
variable {E : Type}

/-- `x`: a run; `y`: the same run on more fuel -/
def FuelLe {α : Type} (x y : Outcome α × Trace) : Prop := x.1 ≠ .outOfFuel → y = x

theorem FuelLe.refl {α : Type} (x : Outcome α × Trace) : FuelLe x x := fun _ => rfl

theorem FuelLe.handle {α : Type} {x y : Outcome (α × Chain E) × Trace}
    {k k' : α → Chain E → Trace → EngineResult E} {e e' : Trace → EngineResult E}
    (hx : FuelLe x y) (hk : ∀ a ch tr, FuelLe (k a ch tr) (k' a ch tr)) (he : ∀ tr, FuelLe (e tr) (e' tr)) :
    FuelLe (handle x k e) (handle y k' e') := by
  intro h
  obtain ⟨o, t⟩ := x
  cases o with
  | ok p => rw [hx nofun]; exact hk p.1 p.2 t h
  | err => rw [hx nofun]; exact he t h
  | panic => rw [hx nofun]; rfl
  | outOfFuel => exact absurd rfl h

theorem FuelLe.mapResp (f : AppResponse → AppResponse) {x y : EngineResult E} (h : FuelLe x y) :
    FuelLe (mapResp f x) (mapResp f y) := by
  rw [mapResp_handle, mapResp_handle]
  exact h.handle (fun _ _ _ => .refl _) fun _ => .refl _

theorem FuelLe.callThen {cfg : Config E} {blk : Block} {fuel fuel' : Nat}
    (hP : ∀ ch c r l tr, FuelLe (processResponse cfg blk fuel ch c r l tr) (processResponse cfg blk fuel' ch c r l tr))
    (ch : Chain E) (addr : Addr) (en : Entry) (custom : Event) (tr : Trace) :
    FuelLe (callThen cfg blk fuel ch addr en custom tr) (callThen cfg blk fuel' ch addr en custom tr) := by
  rw [callThen_handle, callThen_handle]
  exact .handle (.refl _) (fun _ _ _ => hP _ _ _ _ _) fun _ => .refl _

structure EngineFuelLe (cfg : Config E) (blk : Block) (fuel fuel' : Nat) : Prop where
  execute : ∀ ch s m tr, FuelLe (execute cfg blk fuel ch s m tr) (execute cfg blk fuel' ch s m tr)
  processResponse : ∀ ch c r l tr,
    FuelLe (processResponse cfg blk fuel ch c r l tr) (processResponse cfg blk fuel' ch c r l tr)
  executeSubmsg : ∀ ch c sm tr, FuelLe (executeSubmsg cfg blk fuel ch c sm tr) (executeSubmsg cfg blk fuel' ch c sm tr)
  reply : ∀ ch c rp tr, FuelLe (reply cfg blk fuel ch c rp tr) (reply cfg blk fuel' ch c rp tr)

theorem fuel_le (cfg : Config E) (blk : Block) {fuel fuel' : Nat} (h : fuel ≤ fuel') :
    EngineFuelLe cfg blk fuel fuel' := by
  induction fuel generalizing fuel' with
  | zero => exact ⟨fun _ _ _ _ h => absurd rfl h, fun _ _ _ _ _ h => absurd rfl h, fun _ _ _ _ h => absurd rfl h,
      fun _ _ _ _ h => absurd rfl h⟩
  | succ fuel ih =>
    obtain ⟨fuel', rfl⟩ := Nat.exists_eq_add_one_of_ne_zero (Nat.ne_zero_of_lt h)
    obtain ⟨ihE, ihP, ihS, ihR⟩ := ih (Nat.le_of_succ_le_succ h)
    refine ⟨fun ch s m tr => ?_, fun ch c r l tr => ?_, fun ch c sm tr => ?_, fun ch c rp tr => ?_⟩
    · rcases execute_cases cfg blk ch s m with ⟨o, ho, _⟩ | ⟨f, ch1, addr, en, custom, hf, _, _⟩
      · rw [ho, ho]; exact .refl _
      · rw [hf, hf]; exact (FuelLe.callThen ihP _ _ _ _ _).mapResp f
    · cases l with
      | nil => exact .refl _
      | cons sm rest =>
        rw [processResponse_cons_handle, processResponse_cons_handle]
        exact .handle (ihS _ _ _ _) (fun _ _ _ => ihP _ _ _ _ _) fun _ => .refl _
    · rw [executeSubmsg_handle, executeSubmsg_handle]
      refine .handle (ihE _ _ _ _) (fun r ch1 tr1 => ?_) fun tr1 => ?_
      · cases wantsReplyOnOk sm.replyOn with
        | true => exact (ihR _ _ _ _).mapResp _
        | false => exact .refl _
      · cases wantsReplyOnErr sm.replyOn with
        | true => exact ihR _ _ _ _
        | false => exact .refl _
    · rw [reply_succ, reply_succ]
      exact FuelLe.callThen ihP _ _ _ _ _

end CwMt.Engine
