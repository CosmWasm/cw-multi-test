import CwMt.Proofs.Store
import CwMt.Model.Overlay
/-
  CwMt.Proofs.Overlay — lemmas about the transactional overlay (`Stack`, `merge`, `abs`).

  Every list here (a store, a layer's deltas, a range, the merged stream) has pairwise distinct keys
  and is therefore the graph of its `Store.get`; each operation is characterised by what it does to
  `get`, with `overlayGet` saying how a delta shadows the value beneath it.
-/
namespace CwMt

theorem before_asymm {o : Order} {a b : Key} : before o a b = true → ¬ before o b a = true := by
  cases o <;> simp only [before, decide_eq_true_eq] <;> exact List.lt_asymm

theorem before_ne {o : Order} {a b : Key} (h : before o a b = true) : a ≠ b :=
  fun e => before_asymm (e ▸ h) h

theorem before_trans {o : Order} {a b c : Key} :
    before o a b = true → before o b c = true → before o a c = true := by
  cases o <;> simp only [before, decide_eq_true_eq]
  · exact List.lt_trans
  · exact fun h₁ h₂ => List.lt_trans h₂ h₁

theorem before_total (o : Order) (a b : Key) : before o a b = true ∨ a = b ∨ before o b a = true := by
  cases o <;> simp only [before, decide_eq_true_eq]
  · exact Std.lt_trichotomy a b
  · rcases Std.lt_trichotomy a b with h | h | h
    · exact Or.inr (Or.inr h)
    · exact Or.inr (Or.inl h)
    · exact Or.inl h

abbrev Mono {α : Type} (o : Order) (l : List (Key × α)) : Prop :=
  l.Pairwise (fun a b => before o a.1 b.1 = true)

theorem Mono.get_eq_some_iff {α : Type} {o : Order} {l : List (Key × α)} (h : Mono o l) {k : Key} {a : α} :
    Store.get l k = some a ↔ (k, a) ∈ l :=
  ⟨Store.mem_of_get_eq_some, Store.get_eq_some_of_mem (h.imp before_ne)⟩

theorem Mono.before_all {α : Type} {o : Order} {x k : Key} {a : α} {l : List (Key × α)} (h : Mono o ((k, a) :: l))
    (hx : before o x k = true) : ∀ p ∈ (k, a) :: l, before o x p.1 = true :=
  List.forall_mem_cons.2 ⟨hx, fun p hp => before_trans hx ((List.pairwise_cons.1 h).1 p hp)⟩

theorem Store.get_eq_none_of_before {α : Type} {o : Order} {k : Key} {l : List (Key × α)}
    (h : ∀ p ∈ l, before o k p.1 = true) : Store.get l k = none :=
  Store.get_eq_none fun p hp => (before_ne (h p hp)).symm

theorem Mono.ext_get {α : Type} {o : Order} {l₁ l₂ : List (Key × α)} (h₁ : Mono o l₁) (h₂ : Mono o l₂)
    (h : ∀ k, Store.get l₁ k = Store.get l₂ k) : l₁ = l₂ :=
  pairwise_ext (fun _ _ => before_asymm) h₁ h₂ fun ⟨k, a⟩ => by
    rw [← h₁.get_eq_some_iff, ← h₂.get_eq_some_iff, h k]

theorem Store.mono_range {V : Type} {m : Store V} (hs : m.Sorted) (s e : Option Key) (o : Order) :
    Mono o (m.range s e o) := by
  cases o
  · exact (hs.filter _).imp decide_eq_true
  · exact (List.pairwise_reverse.2 (hs.filter _)).imp decide_eq_true

theorem Store.get_range {V : Type} {m : Store V} (hs : m.Sorted) (s e : Option Key) (o : Order) (k : Key) :
    Store.get (m.range s e o) k = if inBounds s e k then m.get k else none := by
  apply Option.ext
  intro v
  rw [(Store.mono_range hs s e o).get_eq_some_iff, Store.mem_range_iff_get hs]
  cases inBounds s e k <;> simp

/-- how a layer's delta for a key combines with what the base answers -/
def overlayGet : Option Delta → Option Val → Option Val
  | some (.set v), _ => some v
  | some .del, _ => none
  | none, b => b

theorem overlayGet_some_congr (d : Delta) (x y : Option Val) : overlayGet (some d) x = overlayGet (some d) y := by
  cases d <;> rfl

theorem Stack.get_layer (b : Stack) (l : Layer) (k : Key) :
    (Stack.layer b l).get k = overlayGet (l.loc.get k) (b.get k) := by
  rw [Stack.get]
  cases l.loc.get k with
  | none => rfl
  | some d => cases d <;> rfl

/-- `take_left`: a `Set` is yielded, a `Delete` is skipped -/
def emit (k : Key) : Delta → List (Key × Val) → List (Key × Val)
  | .set v, rest => (k, v) :: rest
  | .del, rest => rest

theorem get_emit {lk : Key} (k : Key) (d : Delta) {rest : List (Key × Val)} (h : Store.get rest lk = none) :
    Store.get (emit lk d rest) k = if lk = k then overlayGet (some d) none else Store.get rest k := by
  cases d
  · rfl
  · split
    · next e => exact e ▸ h
    · rfl

theorem mono_emit {o : Order} {lk : Key} {d : Delta} {rest : List (Key × Val)}
    (h : ∀ p ∈ rest, before o lk p.1 = true) (hm : Mono o rest) : Mono o (emit lk d rest) := by
  cases d
  · exact List.pairwise_cons.2 ⟨h, hm⟩
  · exact hm

def MergeSpec (o : Order) (l : List (Key × Delta)) (r M : List (Key × Val)) : Prop :=
  Mono o M ∧ ∀ k, Store.get M k = overlayGet (Store.get l k) (Store.get r k)

/-- every key of the merged stream is a key of one of the two streams -/
theorem MergeSpec.bound {o : Order} {l : List (Key × Delta)} {r M : List (Key × Val)} (h : MergeSpec o l r M)
    {x : Key} (hl : ∀ p ∈ l, before o x p.1 = true) (hr : ∀ p ∈ r, before o x p.1 = true) :
    ∀ p ∈ M, before o x p.1 = true := by
  intro p hp
  have hg := h.2 p.1
  rw [h.1.get_eq_some_iff.2 hp] at hg
  cases hd : Store.get l p.1 with
  | some d => exact hl _ (Store.mem_of_get_eq_some hd)
  | none => rw [hd] at hg; exact hr _ (Store.mem_of_get_eq_some hg.symm)

/-- one `take_left` step: `R` is what remains of the base stream, and the base stream `r` before the step
(`R`, or `(lk, _) :: R` when it held the key too) agrees with it off `lk` -/
theorem MergeSpec.emit {o : Order} {lk : Key} {d : Delta} {l : List (Key × Delta)} {r R M : List (Key × Val)}
    (h : MergeSpec o l R M) (hL : ∀ p ∈ l, before o lk p.1 = true) (hR : ∀ p ∈ R, before o lk p.1 = true)
    (hr : ∀ k, lk ≠ k → Store.get r k = Store.get R k) : MergeSpec o ((lk, d) :: l) r (emit lk d M) := by
  have hM : Store.get M lk = none := by
    rw [h.2, Store.get_eq_none_of_before hL, Store.get_eq_none_of_before hR]; rfl
  refine ⟨mono_emit (h.bound hL hR) h.1, fun k => ?_⟩
  rw [get_emit _ _ hM, Store.get_cons]
  split
  · exact overlayGet_some_congr ..
  · next e => rw [h.2, hr k e]

/-- one `right.next()` step -/
theorem MergeSpec.right {o : Order} {rk : Key} {rv : Val} {l : List (Key × Delta)} {r M : List (Key × Val)}
    (h : MergeSpec o l r M) (hL : ∀ p ∈ l, before o rk p.1 = true) (hR : ∀ p ∈ r, before o rk p.1 = true) :
    MergeSpec o l ((rk, rv) :: r) ((rk, rv) :: M) := by
  refine ⟨List.pairwise_cons.2 ⟨h.bound hL hR, h.1⟩, fun k => ?_⟩
  rw [Store.get_cons, h.2, Store.get_cons rk]
  split
  · next e => subst e; rw [Store.get_eq_none_of_before hL]; rfl
  · rfl

theorem merge_spec {o : Order} {l : List (Key × Delta)} {r : List (Key × Val)} (hl : Mono o l) (hr : Mono o r) :
    MergeSpec o l r (merge o l r) := by
  -- along the arms of `merge`, a `Set` and a `Delete` of the left stream together (`emit` computes on either): the base
  -- stream exhausted, equal keys, the left key first (three times `take_left`), the right key first (`right.next()`)
  fun_induction merge o l r with
  | case1 r => exact ⟨hr, fun _ => rfl⟩
  | case2 lk v l ih | case3 lk l ih =>
    have hl' := List.pairwise_cons.1 hl
    exact (ih hl'.2 hr).emit hl'.1 nofun fun _ _ => rfl
  | case4 l rk rv r v ih | case5 l rk rv r ih =>
    have hl' := List.pairwise_cons.1 hl
    have hr' := List.pairwise_cons.1 hr
    exact (ih hl'.2 hr'.2).emit hl'.1 hr'.1 fun k e => by rw [Store.get_cons, if_neg e]
  | case6 lk l rk rv r e hb v ih | case7 lk l rk rv r e hb ih =>
    have hl' := List.pairwise_cons.1 hl
    exact (ih hl'.2 hr).emit hl'.1 (hr.before_all hb) fun _ _ => rfl
  | case8 lk d l rk rv r e hb ih =>
    have hr' := List.pairwise_cons.1 hr
    have hb' := ((before_total o lk rk).resolve_left hb).resolve_left e
    exact (ih hl hr'.2).right (hl.before_all hb') hr'.1

theorem sorted_applyDelta {m : Store Val} (hs : m.Sorted) (k : Key) (d : Delta) :
    (applyDelta m k d).Sorted := by
  cases d
  · exact Store.sorted_set hs _ _
  · exact Store.sorted_remove hs _

theorem get_applyDelta {m : Store Val} (hs : m.Sorted) (k k' : Key) (d : Delta) :
    (applyDelta m k d).get k' = if k' = k then overlayGet (some d) none else m.get k' := by
  cases d
  · exact Store.get_set m k k' _
  · exact Store.get_remove hs k k'

/-- `abs (.layer b l)` is `applyDeltas l.loc (abs b)` by `rfl` -/
abbrev applyDeltas (loc : Store Delta) (m : Store Val) : Store Val :=
  loc.foldl (fun m p => applyDelta m p.1 p.2) m

theorem sorted_applyDeltas (loc : Store Delta) {m : Store Val} (hs : m.Sorted) :
    (applyDeltas loc m).Sorted :=
  List.foldlRecOn loc _ hs fun _ h p _ => sorted_applyDelta h p.1 p.2

theorem get_applyDeltas {loc : Store Delta} (hl : loc.Sorted) {m : Store Val} (hs : m.Sorted)
    (k : Key) : (applyDeltas loc m).get k = overlayGet (loc.get k) (m.get k) := by
  induction loc generalizing m with
  | nil => rfl
  | cons p loc ih =>
    have hl' := Store.sorted_cons.1 hl
    rw [applyDeltas, List.foldl_cons, ← applyDeltas, ih hl'.2 (sorted_applyDelta hs _ _), get_applyDelta hs,
      Store.get_cons]
    split
    · next e => subst e; rw [if_pos rfl, Store.get_eq_none_of_lt hl'.1]; exact overlayGet_some_congr ..
    · next e => rw [if_neg (Ne.symm e)]

theorem applyDeltas_set {loc : Store Delta} (hl : loc.Sorted) {m : Store Val} (hs : m.Sorted) (k : Key)
    (d : Delta) : applyDeltas (loc.set k d) m = applyDelta (applyDeltas loc m) k d := by
  have h := sorted_applyDeltas loc hs
  apply Store.ext_get (sorted_applyDeltas _ hs) (sorted_applyDelta h k d)
  intro k'
  rw [get_applyDeltas (Store.sorted_set hl k d) hs, Store.get_set, get_applyDelta h, get_applyDeltas hl hs]
  split
  · exact overlayGet_some_congr ..
  · rfl

/-- last-write-wins summary of a replay log -/
def summary (log : List Op) : Store Delta := log.foldl (fun m op => m.set op.key op.toDelta) []

/-- representation invariant: the root and every layer's `loc` are `BTreeMap`s, hence sorted, and `set` / `remove`
record every write in `loc` and in `log` alike -/
def WF : Stack → Prop
  | .root m => m.Sorted
  | .layer b l => WF b ∧ l.loc.Sorted ∧ l.loc = summary l.log

/-- for `by decide` on closed stacks (`example : WF nvStack` in `CwMt/Props/C06.lean`) -/
instance WF.instDecidable : (st : Stack) → Decidable (WF st)
  | .root m => inferInstanceAs (Decidable m.Sorted)
  | .layer b l =>
    have : Decidable (WF b) := WF.instDecidable b
    inferInstanceAs (Decidable (WF b ∧ l.loc.Sorted ∧ l.loc = summary l.log))

theorem summary_append (log : List Op) (op : Op) :
    summary (log ++ [op]) = (summary log).set op.key op.toDelta := by
  simp [summary, List.foldl_append]

theorem sorted_summary (log : List Op) : (summary log).Sorted :=
  List.foldlRecOn log _ Store.sorted_nil fun _ h op _ => Store.sorted_set h op.key op.toDelta

theorem Stack.abs_layer (b : Stack) (l : Layer) : abs (.layer b l) = applyDeltas l.loc (abs b) := rfl

theorem WF.abs_sorted {st : Stack} (h : WF st) : (abs st).Sorted := by
  induction st with
  | root _ => exact h
  | layer b l ih => exact sorted_applyDeltas l.loc (ih h.1)

theorem Stack.get_abs_layer {b : Stack} {l : Layer} (h : WF (.layer b l)) (k : Key) :
    (abs (.layer b l)).get k = overlayGet (l.loc.get k) ((abs b).get k) :=
  get_applyDeltas h.2.1 h.1.abs_sorted k

theorem Stack.get_eq_abs {st : Stack} (h : WF st) (k : Key) : st.get k = (abs st).get k := by
  induction st with
  | root _ => rfl
  | layer b l ih => rw [Stack.get_layer, Stack.get_abs_layer h, ih h.1]

theorem Stack.applyOp_root (m : Store Val) (op : Op) :
    (Stack.root m).applyOp op = .root (applyDelta m op.key op.toDelta) := by
  cases op <;> rfl

theorem Stack.applyOp_layer (b : Stack) (l : Layer) (op : Op) :
    (Stack.layer b l).applyOp op =
      .layer b { loc := l.loc.set op.key op.toDelta, log := l.log ++ [op] } := by
  cases op <;> rfl

theorem WF.applyOp (st : Stack) (h : WF st) (op : Op) : WF (st.applyOp op) := by
  cases st with
  | root _ => rw [Stack.applyOp_root]; exact sorted_applyDelta h _ _
  | layer b l =>
    rw [Stack.applyOp_layer]
    exact ⟨h.1, Store.sorted_set h.2.1 _ _, by rw [summary_append, ← h.2.2]⟩

theorem Stack.abs_applyOp {st : Stack} (h : WF st) (op : Op) :
    abs (st.applyOp op) = applyDelta (abs st) op.key op.toDelta := by
  cases st with
  | root _ => rw [Stack.applyOp_root]; rfl
  | layer b l =>
    rw [Stack.applyOp_layer]
    exact applyDeltas_set h.2.1 h.1.abs_sorted _ _

theorem WF.set : ∀ (st : Stack), WF st → ∀ (k : Key) (v : Val), WF (st.set k v) :=
  fun st h k v => WF.applyOp st h (.set k v)
theorem WF.remove : ∀ (st : Stack), WF st → ∀ (k : Key), WF (st.remove k) :=
  fun st h k => WF.applyOp st h (.del k)

theorem Stack.abs_set {st : Stack} (h : WF st) (k : Key) (v : Val) : abs (st.set k v) = (abs st).set k v :=
  Stack.abs_applyOp h (.set k v)

theorem Stack.abs_remove {st : Stack} (h : WF st) (k : Key) : abs (st.remove k) = (abs st).remove k :=
  Stack.abs_applyOp h (.del k)

theorem WF.push (st : Stack) (h : WF st) : WF st.push :=
  ⟨h, Store.sorted_nil, rfl⟩

theorem WF.discard : ∀ (st : Stack), WF st → WF st.discard
  | .root _, h => h
  | .layer _ _, h => h.1

theorem WF.applyLog (log : List Op) (st : Stack) (h : WF st) : WF (st.applyLog log) :=
  List.foldlRecOn log _ h fun st h op _ => WF.applyOp st h op

theorem WF.commit : ∀ (st : Stack), WF st → WF st.commit
  | .root _, h => h
  | .layer b l, h => WF.applyLog l.log b h.1

theorem Stack.abs_applyLog (log : List Op) {st : Stack} (h : WF st) :
    abs (st.applyLog log) = log.foldl (fun m op => applyDelta m op.key op.toDelta) (abs st) := by
  induction log generalizing st with
  | nil => rfl
  | cons op log ih =>
    rw [List.foldl_cons, ← Stack.abs_applyOp h op]
    exact ih (WF.applyOp st h op)

/-- `Stack.abs_commit` with an accumulator `acc` in place of `[]`, for the induction -/
theorem foldl_applyDelta_applyDeltas (log : List Op) {acc : Store Delta} (ha : acc.Sorted) {m : Store Val} (hm : m.Sorted) :
    log.foldl (fun m op => applyDelta m op.key op.toDelta) (applyDeltas acc m) =
      applyDeltas (log.foldl (fun a op => a.set op.key op.toDelta) acc) m := by
  induction log generalizing acc with
  | nil => rfl
  | cons op log ih =>
    rw [List.foldl_cons, List.foldl_cons, ← applyDeltas_set ha hm, ih (Store.sorted_set ha _ _)]

theorem sorted_foldl_log (log : List Op) (m : Store Val) (hm : m.Sorted) :
    (log.foldl (fun m op => applyDelta m op.key op.toDelta) m).Sorted :=
  List.foldlRecOn log _ hm fun _ h op _ => sorted_applyDelta h op.key op.toDelta

theorem Stack.abs_commit {b : Stack} {l : Layer} (h : WF (.layer b l)) :
    abs (Stack.commit (.layer b l)) = abs (.layer b l) := by
  rw [Stack.abs_layer, h.2.2]
  exact (Stack.abs_applyLog l.log h.1).trans (foldl_applyDelta_applyDeltas l.log Store.sorted_nil h.1.abs_sorted)

/-- the short-circuit on inverted bounds is invisible: inverted bounds select nothing anyway -/
theorem localRange_eq (loc : Store Delta) (s e : Option Key) (o : Order) :
    localRange loc s e o = loc.range s e o := by
  unfold localRange
  split
  · split
    · next h => exact (Store.range_inverted loc (List.le_of_lt h) o).symm
    · rfl
  · rfl

theorem Stack.range_eq_abs {st : Stack} (h : WF st) (s e : Option Key) (o : Order) :
    st.range s e o = (abs st).range s e o := by
  induction st with
  | root _ => rfl
  | layer b l ih =>
    have hb := Store.mono_range h.1.abs_sorted s e o
    have hl := Store.mono_range h.2.1 s e o
    rw [Stack.range, ih h.1, localRange_eq]
    have hm := merge_spec hl hb
    apply Mono.ext_get hm.1 (Store.mono_range h.abs_sorted s e o)
    intro k
    rw [hm.2, Store.get_range h.2.1, Store.get_range h.1.abs_sorted, Store.get_range h.abs_sorted,
      Stack.get_abs_layer h]
    split <;> rfl

/-! ### kernel-evaluable `range` (so that `by decide` works on closed stacks)

`merge` is defined by well-founded recursion and therefore does not reduce under `decide`.
`mergeS` is the same function by structural recursion (outer on the deltas, inner on the base
stream); `Stack.rangeF` uses it and is proved equal to `Stack.range`. The `Decidable` instance below
decides equations about `Stack.range` by evaluating `Stack.rangeF`; its priority puts it before `List`'s
`DecidableEq`, which would evaluate `merge`. -/

def mergeS.go (o : Order) (lk : Key) (d : Delta) (rec : List (Key × Val) → List (Key × Val)) :
    List (Key × Val) → List (Key × Val)
  | [] => emit lk d (rec [])
  | (rk, rv) :: r =>
    if lk = rk then emit lk d (rec r)
    else if before o lk rk then emit lk d (rec ((rk, rv) :: r))
    else (rk, rv) :: mergeS.go o lk d rec r

def mergeS (o : Order) : List (Key × Delta) → List (Key × Val) → List (Key × Val)
  | [], r => r
  | (lk, d) :: l, r => mergeS.go o lk d (mergeS o l) r

theorem merge_cons_nil (o : Order) (lk : Key) (d : Delta) (l : List (Key × Delta)) :
    merge o ((lk, d) :: l) [] = emit lk d (merge o l []) := by
  cases d <;> rw [merge] <;> rfl

theorem merge_cons_cons (o : Order) (lk : Key) (d : Delta) (l : List (Key × Delta)) (rk : Key) (rv : Val)
    (r : List (Key × Val)) :
    merge o ((lk, d) :: l) ((rk, rv) :: r) =
      if lk = rk then emit lk d (merge o l r)
      else if before o lk rk then emit lk d (merge o l ((rk, rv) :: r))
      else (rk, rv) :: merge o ((lk, d) :: l) r := by
  cases d <;> rw [merge] <;> rfl

theorem mergeS_eq (o : Order) (l : List (Key × Delta)) (r : List (Key × Val)) :
    mergeS o l r = merge o l r := by
  induction l generalizing r with
  | nil => rw [merge]; rfl
  | cons q l ihl =>
    obtain ⟨lk, d⟩ := q
    induction r with
    | nil => rw [merge_cons_nil, ← ihl]; rfl
    | cons q r ihr =>
      obtain ⟨rk, rv⟩ := q
      rw [merge_cons_cons, ← ihl, ← ihl, ← ihr]
      rfl

def Stack.rangeF : Stack → Option Key → Option Key → Order → List (Key × Val)
  | .root m, s, e, o => m.range s e o
  | .layer b l, s, e, o => mergeS o (localRange l.loc s e o) (b.rangeF s e o)

theorem Stack.rangeF_eq (st : Stack) (s e : Option Key) (o : Order) : st.rangeF s e o = st.range s e o := by
  induction st with
  | root _ => rfl
  | layer b l ih => rw [Stack.rangeF, Stack.range, ih, mergeS_eq]

instance (priority := high) Stack.instDecidableRangeEq (st : Stack) (s e : Option Key) (o : Order)
    (x : List (Key × Val)) : Decidable (st.range s e o = x) :=
  decidable_of_iff (st.rangeF s e o = x) (by rw [Stack.rangeF_eq])

end CwMt
