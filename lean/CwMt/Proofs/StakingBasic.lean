import CwMt.Model.Staking
/-
  CwMt.Proofs.StakingBasic — `KMap` by `get?` (one if-form lemma per operation), the one step of the filtered sums of the
  model (`sum_filter_cons`), the exchange of one summand without subtraction (`sum_exchange`), staker sets, rounding facts
  of `Dec`.
-/
namespace CwMt
namespace Staking

namespace KMap
variable {κ α : Type} [DecidableEq κ]

@[simp] theorem get?_nil (k : κ) : get? ([] : KMap κ α) k = none := rfl

theorem get?_cons (k' k : κ) (v : α) (m : KMap κ α) :
    get? ((k', v) :: m) k = if k' = k then some v else get? m k := rfl

theorem isSome_get?_of_mem {m : KMap κ α} {p : κ × α} (h : p ∈ m) : (get? m p.1).isSome := by
  induction m with
  | nil => cases h
  | cons q m ih =>
    rw [get?_cons]
    split
    · rfl
    · rename_i e
      rcases List.mem_cons.mp h with rfl | h2
      · exact absurd rfl e
      · exact ih h2

theorem erase_cons (p : κ × α) (m : KMap κ α) (k : κ) :
    erase (p :: m) k = if p.1 = k then erase m k else p :: erase m k := by
  by_cases h : p.1 = k <;> simp [erase, h]

theorem set_eq (m : KMap κ α) (k : κ) (v : α) : set m k v = (k, v) :: erase m k := rfl

theorem get?_mapVal (m : KMap κ α) (F : κ × α → α) (k : κ) :
    get? (m.map fun p => (p.1, F p)) k = (get? m k).map fun v => F (k, v) := by
  induction m with
  | nil => rfl
  | cons p m ih =>
    obtain ⟨k', v⟩ := p
    by_cases h : k' = k
    · subst h; simp [get?_cons]
    · simp [get?_cons, h, ih]

theorem get?_filterKey (m : KMap κ α) (P : κ → Bool) (k : κ) :
    get? (m.filter fun p => P p.1) k = if P k then get? m k else none := by
  induction m with
  | nil => simp
  | cons p m ih =>
    obtain ⟨k', v⟩ := p
    by_cases h : k' = k
    · subst h; by_cases hp : P k' = true <;> simp [hp, get?_cons, ih]
    · by_cases hp : P k' = true <;> simp [hp, get?_cons, h, ih]

theorem get?_erase (m : KMap κ α) (k k2 : κ) :
    get? (erase m k) k2 = if k2 = k then none else get? m k2 := by
  rw [erase, get?_filterKey m (fun x => decide (x ≠ k))]
  by_cases h : k2 = k <;> simp [h]

theorem get?_set (m : KMap κ α) (k k2 : κ) (v : α) :
    get? (set m k v) k2 = if k2 = k then some v else get? m k2 := by
  rw [set_eq, get?_cons, get?_erase]
  by_cases h : k2 = k
  · subst h; simp
  · rw [if_neg (fun e => h e.symm), if_neg h, if_neg h]

theorem get?_set_self (m : KMap κ α) (k : κ) (v : α) : get? (set m k v) k = some v := by
  rw [get?_set, if_pos rfl]

theorem get?_set_ne (m : KMap κ α) {k k2 : κ} (v : α) (h : k2 ≠ k) : get? (set m k v) k2 = get? m k2 := by
  rw [get?_set, if_neg h]

/-- removing a key takes the value it showed out of any sum over the entries. `≤`, not `=`: keys are not assumed unique, and
`erase` drops every duplicate. -/
theorem sum_erase (f : κ × α → Nat) (m : KMap κ α) (k : κ) :
    ((erase m k).map f).sum + (get? m k).elim 0 (fun v => f (k, v)) ≤ (m.map f).sum := by
  induction m with
  | nil => exact Nat.le_refl _
  | cons p m ih =>
    obtain ⟨k', v⟩ := p
    rw [erase_cons, get?_cons]
    by_cases h : k' = k
    · subst h
      have : ((erase m k').map f).sum ≤ (m.map f).sum := Nat.le_trans (Nat.le_add_right _ _) ih
      simp only [if_pos, List.map_cons, List.sum_cons, Option.elim]
      rw [Nat.add_comm]
      exact Nat.add_le_add_left this _
    · simp only [if_neg h, List.map_cons, List.sum_cons]
      rw [Nat.add_assoc]
      exact Nat.add_le_add_left ih _

/-- a changed sum is compared with the old one without subtraction, here and in every later file:
new sum + old summand ≤ old sum + new summand (`sum_exchange` puts two such steps together) -/
theorem sum_set (f : κ × α → Nat) (m : KMap κ α) (k : κ) (v : α) :
    ((set m k v).map f).sum + (get? m k).elim 0 (fun old => f (k, old)) ≤ (m.map f).sum + f (k, v) := by
  rw [set_eq, List.map_cons, List.sum_cons, Nat.add_assoc, Nat.add_comm (f (k, v))]
  exact Nat.add_le_add_right (sum_erase f m k) _

end KMap

/-- every sum of the staking model has the shape `((l.filter P).map g).sum`; this is its one step -/
theorem sum_filter_cons {β : Type} (P : β → Prop) [DecidablePred P] (g : β → Nat) (a : β) (l : List β) :
    (((a :: l).filter fun x => decide (P x)).map g).sum =
      (if P a then g a else 0) + ((l.filter fun x => decide (P x)).map g).sum := by
  by_cases h : P a <;> simp [h]

theorem sum_map_le {β : Type} (f g : β → Nat) (l : List β) (h : ∀ x ∈ l, f x ≤ g x) : (l.map f).sum ≤ (l.map g).sum := by
  induction l with
  | nil => exact Nat.le_refl _
  | cons a l ih =>
    rw [List.map_cons, List.map_cons, List.sum_cons, List.sum_cons]
    exact Nat.add_le_add (h a List.mem_cons_self) (ih fun x hx => h x (List.mem_cons_of_mem _ hx))

/-- a sum `S` has become `S'` because its summand `c` has become `n`: what bounds `n` by `c` bounds `S'` by `S` -/
theorem sum_exchange {S S' c n x y : Nat} (hs : S' + c ≤ S + n) (hn : n + x ≤ c + y) : S' + x ≤ S + y :=
  Nat.le_of_add_le_add_right (b := c) <|
    calc S' + x + c = S' + c + x := Nat.add_right_comm _ _ _
      _ ≤ S + n + x := Nat.add_le_add_right hs _
      _ = S + (n + x) := Nat.add_assoc _ _ _
      _ ≤ S + (c + y) := Nat.add_le_add_left hn _
      _ = S + y + c := by rw [Nat.add_comm c, Nat.add_assoc]

/-- `TInv_stakeSaved` (Staking) in numbers (`o` plays 10^18): the shares of a validator sum to `S`, then to `S'`, because one
of them went from `c` to `n`; when `n` moved by at most `+ b − a` whole units and the total `t` by at least that, `t'`
covers `S'` -/
theorem total_covers_after {o S S' c n a b t t' : Nat} (ho : 0 < o) (hs : S' + c ≤ S + n) (hn : n + o * a ≤ c + o * b)
    (ht : S / o ≤ t) (hvs : t + b ≤ t' + a) : S' / o ≤ t' := by
  refine Nat.le_of_add_le_add_right (b := a) ?_
  calc S' / o + a = (S' + o * a) / o := (Nat.add_mul_div_left S' a ho).symm
    _ ≤ (S + o * b) / o := Nat.div_le_div_right (sum_exchange hs hn)
    _ = S / o + b := Nat.add_mul_div_left S b ho
    _ ≤ t + b := Nat.add_le_add_right ht b
    _ ≤ t' + a := hvs

theorem ite_mem_singleton {α β : Type} [DecidableEq α] (a b : α) (x y : β) :
    (if a ∈ [b] then x else y) = if b = a then x else y := by
  simp [eq_comm]

theorem ite_mem_pair {α β : Type} [DecidableEq α] (a b₁ b₂ : α) (x y : β) :
    (if a ∈ [b₁, b₂] then x else y) = if b₁ = a ∨ b₂ = a then x else y := by
  simp [eq_comm]

theorem mem_setInsert {l : List Addr} {a b : Addr} : b ∈ setInsert l a ↔ b = a ∨ b ∈ l := by
  unfold setInsert
  split
  · exact ⟨Or.inr, fun h => h.elim (fun e => e ▸ ‹a ∈ l›) id⟩
  · exact List.mem_cons

theorem mem_setErase {l : List Addr} {a b : Addr} : b ∈ setErase l a ↔ b ∈ l ∧ b ≠ a := by
  simp [setErase]

theorem YEAR_pos : 0 < YEAR := by decide

end Staking

namespace Dec

theorem ext {a b : Dec} (h : a.atomics = b.atomics) : a = b := by cases a; cases b; simp_all

theorem ONE_pos : 0 < ONE := by decide

theorem eq_zero_of_isZero {a : Dec} (h : a.isZero = true) : a = zero := by
  apply ext; simpa [isZero, zero] using h

theorem add_zero (a : Dec) : add a zero = a := rfl

theorem mulFloor_le (n : Nat) {d : Dec} (h : d.atomics ≤ ONE) : mulFloor n d ≤ n := by
  unfold mulFloor
  apply Nat.div_le_of_le_mul
  rw [Nat.mul_comm ONE n]
  exact Nat.mul_le_mul_left n h

theorem mulFloor_zero (n : Nat) {d : Dec} (h : d.atomics = 0) : mulFloor n d = 0 := by
  rw [mulFloor, h, Nat.mul_zero, Nat.zero_div]

theorem mul_le_left (a : Dec) {b : Dec} (h : b.atomics ≤ ONE) : (mul a b).atomics ≤ a.atomics :=
  mulFloor_le a.atomics h

theorem zero_mul (r : Dec) : mul zero r = zero := by apply ext; simp [mul, zero]

theorem floor_zero : zero.floor = 0 := Nat.zero_div _

theorem floor_add_ofNat (a : Dec) (n : Nat) : (add a (ofNat n)).floor = a.floor + n :=
  Nat.add_mul_div_left a.atomics n ONE_pos

theorem floor_sub_ofNat (a : Dec) (n : Nat) : (sub a (ofNat n)).floor = a.floor - n :=
  Nat.sub_mul_div a.atomics ONE n

theorem floor_ofNat (n : Nat) : (ofNat n).floor = n := Nat.mul_div_cancel_left n ONE_pos

theorem mul_ofNat {n m : Nat} {r : Dec} (h : n * r.atomics = ONE * m) : mul (ofNat n) r = ofNat m := by
  show (⟨ONE * n * r.atomics / ONE⟩ : Dec) = ⟨ONE * m⟩
  rw [Nat.mul_assoc, h, Nat.mul_div_cancel_left _ ONE_pos]

theorem eq_zero_of_ofNat_lt_one {m : Nat} (h : (ofNat m).atomics < ONE) : m = 0 := by
  cases m with
  | zero => rfl
  | succ k => exact absurd h (Nat.not_lt.mpr (Nat.le_mul_of_pos_right ONE (Nat.succ_pos k)))

end Dec
end CwMt
