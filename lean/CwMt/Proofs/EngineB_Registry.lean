import CwMt.Model.Registry
/-
  CwMt.Proofs.EngineB_Registry — the code registry (CwMt/Model/Registry.lean; C11): lookup after `insert`, the invariant
  that `insert` keeps, and what `storeCode`, `storeCodeWithId` and `duplicateCode` return when they succeed.
-/
namespace CwMt.EngineB
open CwMt

theorem foldl_max_ge (codes : Registry.Codes) (m : Nat) :
    m ≤ codes.foldl (fun m p => max m p.1) m ∧ ∀ p ∈ codes, p.1 ≤ codes.foldl (fun m p => max m p.1) m := by
  induction codes generalizing m with
  | nil => simp
  | cons q codes ih =>
    obtain ⟨h1, h2⟩ := ih (max m q.1)
    refine ⟨Nat.le_trans (Nat.le_max_left m q.1) h1, fun p hp => ?_⟩
    rcases List.mem_cons.1 hp with rfl | hp
    · exact Nat.le_trans (Nat.le_max_right m p.1) h1
    · exact h2 p hp

theorem le_maxId (codes : Registry.Codes) : ∀ p ∈ codes, p.1 ≤ Registry.maxId codes :=
  (foldl_max_ge codes 0).2

theorem nextCodeId_eq_some {codes : Registry.Codes} {id : Nat} (h : Registry.nextCodeId codes = some id) :
    id = Registry.maxId codes + 1 ∧ id ≤ Registry.u64Max := by
  unfold Registry.nextCodeId at h
  split at h
  · exact absurd h (by simp)
  · simp only [Option.some.injEq] at h
    omega

theorem lookup_filter (codes : Registry.Codes) (f : Nat → Bool) (j : Nat) :
    (codes.filter fun p => f p.1).lookup j = if f j = true then codes.lookup j else none := by
  induction codes with
  | nil => simp
  | cons q codes ih =>
    obtain ⟨k, v⟩ := q
    by_cases hk : j = k
    · subst hk
      cases hf : f j <;> simp [hf, ih]
    · have hb : (j == k) = false := by simp [hk]
      cases hf : f k <;> simp [hf, List.lookup_cons, hb, ih]

theorem lookup_insert (codes : Registry.Codes) (id : Nat) (cd : CodeData) (j : Nat) :
    (Registry.insert codes id cd).lookup j = if j = id then some cd else codes.lookup j := by
  unfold Registry.insert
  rw [List.lookup_append, List.lookup_append, lookup_filter codes (fun n => decide (n < id)),
    lookup_filter codes (fun n => decide (n > id))]
  rcases Nat.lt_trichotomy j id with h | rfl | h
  · simp [List.lookup_cons, h, Nat.lt_asymm h, Nat.ne_of_lt h, beq_false_of_ne (Nat.ne_of_lt h)]
  · simp
  · simp [List.lookup_cons, h, Nat.lt_asymm h, Nat.ne_of_gt h, beq_false_of_ne (Nat.ne_of_gt h)]

/-- `hi` and the conclusion are `C11.RegInv` (defined in the Props file) unfolded -/
theorem RegInv_insert {codes : Registry.Codes} {id : Nat} (cd : CodeData)
    (hi : codes.Pairwise (fun a b => a.1 < b.1) ∧ ∀ p ∈ codes, 1 ≤ p.1 ∧ p.1 ≤ Registry.u64Max)
    (h1 : 1 ≤ id) (h2 : id ≤ Registry.u64Max) :
    (Registry.insert codes id cd).Pairwise (fun a b => a.1 < b.1) ∧
      ∀ p ∈ Registry.insert codes id cd, 1 ≤ p.1 ∧ p.1 ≤ Registry.u64Max := by
  obtain ⟨hp, hb⟩ := hi
  unfold Registry.insert
  constructor
  · rw [List.pairwise_append, List.pairwise_append]
    refine ⟨⟨hp.sublist List.filter_sublist, by simp, ?_⟩, hp.sublist List.filter_sublist, ?_⟩
    · intro a ha b hb'
      simp only [List.mem_filter, decide_eq_true_eq] at ha
      simp only [List.mem_singleton] at hb'
      subst hb'
      exact ha.2
    · intro a ha b hb'
      simp only [List.mem_filter, decide_eq_true_eq, gt_iff_lt] at hb'
      simp only [List.mem_append, List.mem_filter, decide_eq_true_eq, List.mem_singleton] at ha
      rcases ha with ha | ha
      · exact Nat.lt_trans ha.2 hb'.2
      · subst ha; exact hb'.2
  · intro p hp'
    simp only [List.mem_append, List.mem_filter, List.mem_singleton] at hp'
    rcases hp' with (hp' | hp') | hp'
    · exact hb p hp'.1
    · subst hp'; exact ⟨h1, h2⟩
    · exact hb p hp'.1

theorem storeCode_eq (st : Registry.State) (creator : Addr) (chk : Nat → Val) :
    Registry.storeCode st creator chk =
      match Registry.nextCodeId st.codes with
      | none => .panic
      | some id => .ok (id, Registry.saveCode st id creator (chk id)) := by rfl

theorem storeCode_ok {st st' : Registry.State} {creator : Addr} {chk : Nat → Val} {id : Nat}
    (h : Registry.storeCode st creator chk = .ok (id, st')) :
    Registry.nextCodeId st.codes = some id ∧ st' = Registry.saveCode st id creator (chk id) := by
  rw [storeCode_eq] at h
  split at h
  · exact absurd h (by simp)
  · next nid hn =>
    simp only [Outcome.ok.injEq, Prod.mk.injEq] at h
    obtain ⟨rfl, rfl⟩ := h
    exact ⟨hn, rfl⟩

theorem storeCodeWithId_eq (st : Registry.State) (creator : Addr) (id : Nat) (chk : Nat → Val) :
    Registry.storeCodeWithId st creator id chk =
      if id ≠ 0 ∧ st.codes.lookup id = none then .ok (id, Registry.saveCode st id creator (chk id)) else .err := by
  unfold Registry.storeCodeWithId
  cases hl : st.codes.lookup id with
  | some x => rw [if_pos Option.isSome_some, if_neg (fun h => nomatch h.2)]
  | none =>
    rw [if_neg (by simp)]
    by_cases h0 : id = 0
    · rw [if_pos h0, if_neg (fun h => h.1 h0)]
    · rw [if_neg h0, if_pos ⟨h0, rfl⟩]

theorem duplicateCode_ok {st st' : Registry.State} {id nid : Nat}
    (h : Registry.duplicateCode st id = .ok (nid, st')) :
    ∃ cd, st.codes.lookup id = some cd ∧ Registry.nextCodeId st.codes = some nid ∧
      st' = { st with codes := Registry.insert st.codes nid cd } := by
  unfold Registry.duplicateCode at h
  split at h
  · exact absurd h (by simp)
  · split at h
    · exact absurd h (by simp)
    · next cd hcd =>
      split at h
      · exact absurd h (by simp)
      · next n hn =>
        simp only [Outcome.ok.injEq, Prod.mk.injEq] at h
        obtain ⟨rfl, rfl⟩ := h
        exact ⟨cd, hcd, hn, rfl⟩

end CwMt.EngineB
