import CwMt.Proofs.Engine
/-
  CwMt.Proofs.EngineOrder — what is appended to the ghost trace, in which order (C03). `callThen` appends the call entry
  and then what its response processing ran (`callThen_trace`); `executeSubmsg` what its message ran and then what its
  reply ran (`executeSubmsg_trace`). So every started sub-message contributes one pair of segments (`SegFacts`), the
  second empty exactly when no reply is wanted or the dispatcher is not callable, and `processResponse` over a list of
  sub-messages appends these pairs in list order (`Walk`, `siblings_walk`). `depth_first_order` is the first step of
  that walk, `reply_segment_empty_iff` the `once` fact of one segment, `body_before_submessages` is `callThen_trace`
  for `WasmMsg::Execute`.
-/
namespace CwMt.EngineOrder
open CwMt CwMt.Engine
variable {E : Type}

theorem callThen_trace (cfg : Config E) (blk : Block) (fuel : Nat) (ch : Chain E) (addr : Addr) (en : Entry)
    (custom : Event) (tr : Trace) :
    (¬ Callable cfg ch addr ∧ callThen cfg blk fuel ch addr en custom tr = (.err, tr)) ∨
    (Callable cfg ch addr ∧ ∃ note rest, (callThen cfg blk fuel ch addr en custom tr).2 =
      tr ++ [⟨addr, en, contractEnv blk addr, note⟩] ++ rest) := by
  unfold callThen
  rcases callContract_cases cfg blk ch addr en with ⟨hk, h1⟩ | ⟨hk, note, o, h1, _⟩
  · exact .inl ⟨hk, by rw [h1]⟩
  · rw [h1]
    refine .inr ⟨hk, note, ?_⟩
    cases o with
    | ok p => exact trace_grows_processResponse cfg blk fuel p.2 addr _ _ _
    | _ => exact ⟨[], (List.append_nil _).symm⟩

/-- `0 < fuel`: on fuel 0 `reply` answers `outOfFuel` without calling, callable dispatcher or not. -/
theorem reply_trace (cfg : Config E) (blk : Block) (fuel : Nat) (ch : Chain E) (c : Addr) (rp : Reply)
    (tr : Trace) :
    ∃ seg : Trace, (reply cfg blk fuel ch c rp tr).2 = tr ++ seg ∧
      (∀ e, seg.head? = some e → e.callee = c ∧ e.entry = .reply rp) ∧
      (0 < fuel → (seg = [] ↔ ¬ Callable cfg ch c)) := by
  cases fuel with
  | zero => exact ⟨[], (List.append_nil _).symm, fun _ he => (by cases he), fun h => absurd h (Nat.lt_irrefl 0)⟩
  | succ fuel =>
    rw [reply_succ]
    rcases callThen_trace cfg blk fuel ch c (.reply rp) _ tr with ⟨hk, h⟩ | ⟨hk, note, rest, h⟩
    · exact ⟨[], by rw [h, List.append_nil], fun _ he => (by cases he), fun _ => ⟨fun _ => hk, fun _ => rfl⟩⟩
    · refine ⟨_ :: rest, by rw [h, List.append_assoc]; rfl, fun e he => ?_, fun _ => ⟨fun h => (by cases h), fun hn => absurd hk hn⟩⟩
      cases he
      exact ⟨rfl, rfl⟩

theorem executeSubmsg_trace (cfg : Config E) (blk : Block) (fuel : Nat) (ch : Chain E) (c : Addr)
    (sm : SubMsg) (tr : Trace) :
    (executeSubmsg cfg blk (fuel + 1) ch c sm tr).2 =
      if replyWanted (execute cfg blk fuel ch c sm.msg tr).1 sm.replyOn = true then
        (reply cfg blk fuel (replyState ch (execute cfg blk fuel ch c sm.msg tr).1) c
          ⟨sm.id, sm.payload, subResultOf (execute cfg blk fuel ch c sm.msg tr).1⟩
          (execute cfg blk fuel ch c sm.msg tr).2).2
      else (execute cfg blk fuel ch c sm.msg tr).2 := by
  rw [executeSubmsg_succ]
  rcases execute cfg blk fuel ch c sm.msg tr with ⟨o, t⟩
  cases o with
  | ok p =>
    by_cases hw : wantsReplyOnOk sm.replyOn = true
    · simp only [replyWanted, replyState, subResultOf, hw, if_true]; exact mapResp_snd _ _
    · simp only [replyWanted, hw]; rfl
  | err =>
    by_cases hw : wantsReplyOnErr sm.replyOn = true
    · simp only [replyWanted, replyState, subResultOf, hw, if_true]
    · simp only [replyWanted, hw]; rfl
  | _ => rfl

/-- what one started sub-message contributed to the trace -/
structure SubSeg where
  sm : SubMsg
  /-- everything the sub-message's own message ran, to any depth -/
  tSub : Trace
  /-- everything its reply ran: empty, or the `reply` invocation on the dispatcher followed by that reply's sub-tree -/
  tReply : Trace

def flatSegs : List SubSeg → Trace
  | [] => []
  | s :: l => s.tSub ++ s.tReply ++ flatSegs l

/-- the facts about one segment (`n` = fuel of the sub-message's message, `n + 1` of `executeSubmsg`) -/
structure SegFacts (cfg : Config E) (blk : Block) (c : Addr) (n : Nat) (ch : Chain E) (tr : Trace) (s : SubSeg) : Prop where
  sub : (execute cfg blk n ch c s.sm.msg tr).2 = tr ++ s.tSub
  all : (executeSubmsg cfg blk (n + 1) ch c s.sm tr).2 = tr ++ s.tSub ++ s.tReply
  head : ∀ e, s.tReply.head? = some e → e.callee = c ∧
    e.entry = .reply ⟨s.sm.id, s.sm.payload, subResultOf (execute cfg blk n ch c s.sm.msg tr).1⟩
  /-- `c` and `ch` are arbitrary, hence the second conjunct: `reply` on an address without a callable contract records
  nothing. (wasm.rs never removes a contract.) `0 < n`: on fuel 0 `reply` runs out before it calls. -/
  once : 0 < n → (s.tReply = [] ↔
    ¬ (replyWanted (execute cfg blk n ch c s.sm.msg tr).1 s.sm.replyOn = true ∧
       ∃ cd code, (replyState ch (execute cfg blk n ch c s.sm.msg tr).1).contracts.get? c = some cd ∧
         contractCode? cfg cd.codeId = some code))

theorem segFacts_exists (cfg : Config E) (blk : Block) (c : Addr) (n : Nat) (ch : Chain E) (tr : Trace) (sm : SubMsg) :
    ∃ s : SubSeg, s.sm = sm ∧ SegFacts cfg blk c n ch tr s := by
  obtain ⟨tSub, hSub⟩ := trace_grows_execute cfg blk n ch c sm.msg tr
  have hAll := executeSubmsg_trace cfg blk n ch c sm tr
  by_cases hw : replyWanted (execute cfg blk n ch c sm.msg tr).1 sm.replyOn = true
  · rw [if_pos hw] at hAll
    obtain ⟨tReply, hReply, hHead, hOnce⟩ := reply_trace cfg blk n
      (replyState ch (execute cfg blk n ch c sm.msg tr).1) c
      ⟨sm.id, sm.payload, subResultOf (execute cfg blk n ch c sm.msg tr).1⟩ (execute cfg blk n ch c sm.msg tr).2
    exact ⟨⟨sm, tSub, tReply⟩, rfl, hSub, by rw [hAll, hReply, hSub], hHead,
      fun hn => (hOnce hn).trans ⟨fun h hh => h hh.2, fun h hk => h ⟨hw, hk⟩⟩⟩
  · rw [if_neg hw] at hAll
    exact ⟨⟨sm, tSub, []⟩, rfl, hSub, by rw [hAll, hSub, List.append_nil], fun _ he => (by cases he),
      fun _ => ⟨fun _ hh => hw hh.1, fun _ => rfl⟩⟩

/-- `Walk n ch sms tr segs`: `processResponse` with fuel `n`, from state `ch` and trace `tr`, starts exactly the
sub-messages of `segs` — a prefix of `sms`, in order, each after its predecessor together with its reply succeeded,
each on the state its predecessor left. `n` is the fuel of `processResponse`: `executeSubmsg` runs on `n - 1` and the
sub-message's message on `n - 2`, the index of its `SegFacts`. `zero` and `starved` are artefacts of the fuel: it ends
before the first sub-message starts. -/
inductive Walk (cfg : Config E) (blk : Block) (c : Addr) : Nat → Chain E → List SubMsg → Trace → List SubSeg → Prop
  | zero (ch : Chain E) (sms : List SubMsg) (tr : Trace) : Walk cfg blk c 0 ch sms tr []
  | nil (n : Nat) (ch : Chain E) (tr : Trace) : Walk cfg blk c (n + 1) ch [] tr []
  | starved (ch : Chain E) (sm : SubMsg) (rest : List SubMsg) (tr : Trace) : Walk cfg blk c 1 ch (sm :: rest) tr []
  | stop (n : Nat) (ch : Chain E) (sm : SubMsg) (rest : List SubMsg) (tr : Trace) (s : SubSeg) :
      s.sm = sm → SegFacts cfg blk c n ch tr s →
      (executeSubmsg cfg blk (n + 1) ch c sm tr).1.isOk = false →
      Walk cfg blk c (n + 2) ch (sm :: rest) tr [s]
  | next (n : Nat) (ch : Chain E) (sm : SubMsg) (rest : List SubMsg) (tr : Trace) (s : SubSeg)
      (sr : AppResponse) (ch1 : Chain E) (segs : List SubSeg) :
      s.sm = sm → SegFacts cfg blk c n ch tr s →
      (executeSubmsg cfg blk (n + 1) ch c sm tr).1 = .ok (sr, ch1) →
      Walk cfg blk c (n + 1) ch1 rest (tr ++ s.tSub ++ s.tReply) segs →
      Walk cfg blk c (n + 2) ch (sm :: rest) tr (s :: segs)

theorem siblings_walk (cfg : Config E) (blk : Block) (c : Addr) (sms : List SubMsg) :
    ∀ (n : Nat) (ch : Chain E) (resp : AppResponse) (tr : Trace),
    ∃ segs : List SubSeg,
      Walk cfg blk c n ch sms tr segs ∧
      (processResponse cfg blk n ch c resp sms tr).2 = tr ++ flatSegs segs ∧
      ((processResponse cfg blk n ch c resp sms tr).1.isOk = true → segs.map (·.sm) = sms) := by
  induction sms with
  | nil =>
    intro n ch resp tr
    cases n with
    | zero => exact ⟨[], .zero ch [] tr, (List.append_nil tr).symm, fun _ => rfl⟩
    | succ n => exact ⟨[], .nil n ch tr, (List.append_nil tr).symm, fun _ => rfl⟩
  | cons sm rest ih =>
    intro n ch resp tr
    match n with
    | 0 => exact ⟨[], .zero ch _ tr, (List.append_nil tr).symm, fun h => absurd h Bool.false_ne_true⟩
    | 1 => exact ⟨[], .starved ch sm rest tr, (List.append_nil tr).symm, fun h => absurd h Bool.false_ne_true⟩
    | n + 2 =>
      obtain ⟨s, rfl, hf⟩ := segFacts_exists cfg blk c n ch tr sm
      rw [processResponse_succ_cons cfg blk (n + 1)]
      rcases hy : executeSubmsg cfg blk (n + 1) ch c s.sm tr with ⟨o, t⟩
      -- the trace the siblings start from is the head's pair of segments: there the induction hypothesis takes over
      obtain rfl : t = tr ++ s.tSub ++ s.tReply := by rw [← hf.all, hy]
      cases o with
      | ok p =>
        obtain ⟨segs, hw, htr, hok⟩ := ih (n + 1) p.2
          { events := resp.events ++ p.1.events, data := p.1.data.orElse fun _ => resp.data } (tr ++ s.tSub ++ s.tReply)
        exact ⟨s :: segs, .next n ch _ rest tr s p.1 p.2 segs rfl hf (by rw [hy]) hw,
          htr.trans (by simp only [flatSegs, List.append_assoc]), fun h => by rw [List.map_cons, hok h]⟩
      | _ =>
        exact ⟨[s], .stop n ch _ rest tr s rfl hf (by rw [hy]; rfl),
          by simp only [flatSegs, List.append_nil, List.append_assoc], fun h => absurd h Bool.false_ne_true⟩

/-- number of `reply` invocations this level made: the non-empty reply segments -/
def replyCount (segs : List SubSeg) : Nat := (segs.filter fun s => !s.tReply.isEmpty).length

theorem depth_first_order (cfg : Config E) (blk : Block) (fuel : Nat) (ch : Chain E) (contract : Addr)
    (resp : AppResponse) (sm : SubMsg) (rest : List SubMsg) (tr : Trace) :
    ∃ tSub tReply tRest : Trace,
      (execute cfg blk fuel ch contract sm.msg tr).2 = tr ++ tSub ∧
      (executeSubmsg cfg blk (fuel + 1) ch contract sm tr).2 = tr ++ tSub ++ tReply ∧
      (processResponse cfg blk (fuel + 2) ch contract resp (sm :: rest) tr).2 = tr ++ tSub ++ tReply ++ tRest ∧
      (∀ e, tReply.head? = some e → e.callee = contract ∧ ∃ res, e.entry = .reply ⟨sm.id, sm.payload, res⟩) ∧
      (tRest ≠ [] → (executeSubmsg cfg blk (fuel + 1) ch contract sm tr).1.isOk = true) := by
  obtain ⟨segs, hw, htr, _⟩ := siblings_walk cfg blk contract (sm :: rest) (fuel + 2) ch resp tr
  cases hw with
  | stop _ _ _ _ _ s hs hf =>
    subst hs
    exact ⟨s.tSub, s.tReply, [], hf.sub, hf.all, htr.trans (by simp only [flatSegs, List.append_assoc]),
      fun e he => ⟨(hf.head e he).1, _, (hf.head e he).2⟩, fun h => absurd rfl h⟩
  | next _ _ _ _ _ s sr ch1 segs hs hf hok =>
    subst hs
    exact ⟨s.tSub, s.tReply, flatSegs segs, hf.sub, hf.all, htr.trans (by simp only [flatSegs, List.append_assoc]),
      fun e he => ⟨(hf.head e he).1, _, (hf.head e he).2⟩, fun _ => by rw [hok]; rfl⟩

theorem reply_segment_empty_iff (cfg : Config E) (blk : Block) (fuel : Nat) (ch : Chain E) (contract : Addr)
    (sm : SubMsg) (tr : Trace) :
    ((executeSubmsg cfg blk (fuel + 2) ch contract sm tr).2 = (execute cfg blk (fuel + 1) ch contract sm.msg tr).2) ↔
      ¬ (replyWanted (execute cfg blk (fuel + 1) ch contract sm.msg tr).1 sm.replyOn = true ∧
         ∃ cd code, (replyState ch (execute cfg blk (fuel + 1) ch contract sm.msg tr).1).contracts.get? contract = some cd ∧
           contractCode? cfg cd.codeId = some code) := by
  obtain ⟨s, rfl, hf⟩ := segFacts_exists cfg blk contract (fuel + 1) ch tr sm
  rw [hf.all, hf.sub, List.append_right_eq_self]
  exact hf.once (Nat.succ_pos fuel)

theorem body_before_submessages (cfg : Config E) (blk : Block) (fuel : Nat) (ch : Chain E) (sender : Addr)
    (c : String) (m : Val) (funds : Coins) (tr : Trace) :
    (execute cfg blk (fuel + 1) ch sender (.wasmExecute c m funds) tr).2 = tr ∨
    ∃ note rest, (execute cfg blk (fuel + 1) ch sender (.wasmExecute c m funds) tr).2 =
      tr ++ [⟨c, .execute ⟨sender, funds⟩ m, contractEnv blk c, note⟩] ++ rest := by
  rcases execute_wasmExecute_cases cfg blk ch sender c m funds with ⟨o, e, _⟩ | ⟨ch1, _, e⟩
  · exact .inl (by rw [e])
  · rw [e, mapResp_snd]
    rcases callThen_trace cfg blk fuel ch1 c (.execute ⟨sender, funds⟩ m) _ tr with ⟨_, h⟩ | ⟨_, h⟩
    · exact .inl (by rw [h])
    · exact .inr h

end CwMt.EngineOrder
