import CwMt.Model.EngineTx
import CwMt.Proofs.EngineB_Engine
/-
  CwMt.Proofs.EngineTx_Basic — the engine with in-place writes (CwMt/Model/EngineTx.lean), one step shape at a time:
  `ResI.forget` of the step is the step of the value-semantics engine. Guards, module calls, `send`, the contract
  call, the common tail of the contract-calling arms; and the one-step equations of `processResponseI` and
  `executeSubmsgI`.
-/
namespace CwMt.EngineTx
open CwMt CwMt.Engine
variable {E : Type}

section forget
variable {α : Type}

@[simp] theorem forget_ok (a : α) (ch : Chain E) (tr : Trace) :
    ResI.forget ((.ok a, ch, tr) : ResI α E) = (.ok (a, ch), tr) := rfl
@[simp] theorem forget_err (ch : Chain E) (tr : Trace) :
    ResI.forget ((.err, ch, tr) : ResI α E) = (.err, tr) := rfl
@[simp] theorem forget_panic (ch : Chain E) (tr : Trace) :
    ResI.forget ((.panic, ch, tr) : ResI α E) = (.panic, tr) := rfl
@[simp] theorem forget_outOfFuel (ch : Chain E) (tr : Trace) :
    ResI.forget ((.outOfFuel, ch, tr) : ResI α E) = (.outOfFuel, tr) := rfl

theorem forget_transactionalI (ch : Chain E) (r : ResI α E) : (transactionalI ch r).forget = r.forget := by
  obtain ⟨o, c, t⟩ := r
  cases o <;> rfl

theorem transactionalI_eq_atomically (ch : Chain E) (r : ResI α E) :
    transactionalI ch r = App.atomically ch r.forget := by
  obtain ⟨o, c, t⟩ := r
  cases o <;> rfl

theorem forget_eq_ok {r : ResI α E} {a : α} {ch : Chain E} {tr : Trace}
    (h : r.forget = (.ok (a, ch), tr)) : r = (.ok a, ch, tr) := by
  obtain ⟨o, c, t⟩ := r
  cases o <;> cases h
  rfl

theorem forget_eq_err {r : ResI α E} {tr : Trace} (h : r.forget = (.err, tr)) : ∃ ch, r = (.err, ch, tr) := by
  obtain ⟨o, c, t⟩ := r
  cases o <;> cases h
  exact ⟨c, rfl⟩

theorem forget_eq_panic {r : ResI α E} {tr : Trace} (h : r.forget = (.panic, tr)) :
    ∃ ch, r = (.panic, ch, tr) := by
  obtain ⟨o, c, t⟩ := r
  cases o <;> cases h
  exact ⟨c, rfl⟩

theorem forget_eq_outOfFuel {r : ResI α E} {tr : Trace} (h : r.forget = (.outOfFuel, tr)) :
    ∃ ch, r = (.outOfFuel, ch, tr) := by
  obtain ⟨o, c, t⟩ := r
  cases o <;> cases h
  exact ⟨c, rfl⟩

theorem forget_guard {c : Prop} [Decidable c] {x y : ResI α E} {a b : Outcome (α × Chain E) × Trace}
    (hx : x.forget = a) (hy : y.forget = b) : (if c then x else y).forget = if c then a else b := by
  split <;> assumption

end forget

theorem moduleI_ok (d : Dirt E) (ch : Chain E) (s : Addr) (m : Msg) (a : AppResponse) (ch' : Chain E) :
    moduleI d ch s m (.ok (a, ch')) = (.ok a, ch') := by rfl

theorem forget_moduleI (d : Dirt E) (ch : Chain E) (s : Addr) (m : Msg)
    (r : Outcome (AppResponse × Chain E)) (tr : Trace) :
    ResI.forget (((moduleI d ch s m r).1, (moduleI d ch s m r).2, tr) : ResI AppResponse E) = (r, tr) := by
  cases r with
  | ok p => rfl
  | _ => rfl

/-- the admin changes write nothing unless they succeed -/
theorem forget_adminArm (o : Outcome (AppResponse × Chain E)) (ch : Chain E) (tr : Trace) :
    ResI.forget (match o with
      | .ok (a, ch') => (.ok a, ch', tr)
      | .err => (.err, ch, tr)
      | .panic => (.panic, ch, tr)
      | .outOfFuel => (.outOfFuel, ch, tr) : ResI AppResponse E) = (o, tr) := by
  cases o with
  | ok p => rfl
  | _ => rfl

theorem forget_afterSend (d : Dirt E) (ch : Chain E) (s : Addr) (r : String) (f : Coins) (tr : Trace)
    (kI : Chain E → ResI AppResponse E) (k : Chain E → EngineResult E) (hk : ∀ ch1, (kI ch1).forget = k ch1) :
    ResI.forget (match sendFundsI d ch s r f with
      | (.ok _, ch1) => kI ch1
      | (.err, ch1) => (.err, ch1, tr)
      | (.panic, ch1) => (.panic, ch1, tr)
      | (.outOfFuel, ch1) => (.outOfFuel, ch1, tr)) =
    (match sendFunds ch s r f with
      | .ok ch1 => k ch1
      | .err => (.err, tr)
      | .panic => (.panic, tr)
      | .outOfFuel => (.outOfFuel, tr)) := by
  unfold sendFundsI sendFunds
  by_cases he : f.isEmpty = true
  · rw [if_pos he, if_pos he]
    exact hk ch
  · rw [if_neg he, if_neg he]
    cases bankExecute ch s (.bankSend r f) with
    | ok p => exact hk p.2
    | _ => rfl

/-- `d` is gone from the right-hand side: the cache of `with_storage` drops what a failed entry point wrote; a rejected
response keeps `own'`. -/
theorem callContractI_eq (cfg : Config E) (d : Dirt E) (blk : Block) (ch : Chain E) (addr : Addr) (en : Entry)
    (tr : Trace) {cd : ContractData} {code : Code E}
    (hc : ch.contracts.get? addr = some cd) (hcode : contractCode? cfg cd.codeId = some code) :
    callContractI cfg d blk ch addr en tr =
      (let res := code.run en (contractEnv blk addr) ch ((ch.cstore.get? addr).getD [])
       let tr' := tr ++ [{ callee := addr, entry := en, env := contractEnv blk addr, note := res.2 }]
       match res.1 with
       | .ok (resp, own') =>
         (if responseOk resp then .ok resp else .err, { ch with cstore := ch.cstore.set addr own' }, tr')
       | .err => (.err, ch, tr')
       | .panic => (.panic, ch, tr')
       | .outOfFuel => (.outOfFuel, ch, tr')) := by
  unfold callContractI
  rcases code with ⟨run, q⟩
  simp only [hc, hcode]
  generalize run en (contractEnv blk addr) ch ((ch.cstore.get? addr).getD []) = p
  rcases p with ⟨res, note⟩
  rcases res with ⟨resp, own'⟩ | _ | _ | _
  · dsimp only [transactionalI]
    cases responseOk resp <;> rfl
  all_goals rfl

theorem forget_callContractI (cfg : Config E) (d : Dirt E) (blk : Block) (ch : Chain E) (addr : Addr)
    (en : Entry) (tr : Trace) :
    (callContractI cfg d blk ch addr en tr).forget = callContract cfg blk ch addr en tr := by
  cases hc : ch.contracts.get? addr with
  | none => simp only [callContractI, callContract, hc, forget_err]
  | some cd =>
    cases hcode : contractCode? cfg cd.codeId with
    | none => simp only [callContractI, callContract, hc, hcode, forget_err]
    | some code =>
      rw [callContractI_eq cfg d blk ch addr en tr hc hcode, EngineB.callContract_eq cfg blk ch addr en tr hc hcode]
      dsimp only
      cases (code.run en (contractEnv blk addr) ch ((ch.cstore.get? addr).getD [])).1 with
      | ok p =>
        dsimp only
        cases responseOk p.1 <;> rfl
      | _ => rfl

/-- `Engine.mapResp` on imperative results. It has to stay, up to unfolding, the inline match
`| (.ok r, ch, tr) => … | other => other` of the wasm arms of `executeI`: `forget_executeI_succ` closes them by `exact`. -/
def mapRespI (f : AppResponse → AppResponse) : ResI AppResponse E → ResI AppResponse E
  | (.ok r, ch, tr) => (.ok (f r), ch, tr)
  | other => other

theorem forget_mapRespI (f : AppResponse → AppResponse) (x : ResI AppResponse E) :
    (mapRespI f x).forget = mapResp f x.forget := by
  obtain ⟨o, c, t⟩ := x
  cases o <;> rfl

/-- `post = mapRespI f` for the wasm arms of `executeI`, `id` for `replyI` / `wasmSudoI`. Both sides in the shape the
models spell (not `Engine.callThen`), so that it applies to their unfoldings as they stand. -/
theorem forget_callThen (cfg : Config E) (d : Dirt E) (blk : Block) (fuel : Nat)
    (hP : ∀ ch c r l tr, (processResponseI cfg d blk fuel ch c r l tr).forget
        = processResponse cfg blk fuel ch c r l tr)
    (post : ResI AppResponse E → ResI AppResponse E) (post' : EngineResult E → EngineResult E)
    (hpost : ∀ x, (post x).forget = post' x.forget)
    (ch : Chain E) (addr : Addr) (en : Entry) (custom : Event) (tr : Trace) :
    ResI.forget (match callContractI cfg d blk ch addr en tr with
      | (.ok resp, ch2, tr1) =>
        post (processResponseI cfg d blk fuel ch2 addr (buildAppResponse addr custom resp).1
          (buildAppResponse addr custom resp).2 tr1)
      | (.err, ch2, tr1) => (.err, ch2, tr1)
      | (.panic, ch2, tr1) => (.panic, ch2, tr1)
      | (.outOfFuel, ch2, tr1) => (.outOfFuel, ch2, tr1)) =
    (match callContract cfg blk ch addr en tr with
      | (.ok (resp, ch2), tr1) =>
        post' (processResponse cfg blk fuel ch2 addr (buildAppResponse addr custom resp).1
          (buildAppResponse addr custom resp).2 tr1)
      | (.err, tr1) => (.err, tr1)
      | (.panic, tr1) => (.panic, tr1)
      | (.outOfFuel, tr1) => (.outOfFuel, tr1)) := by
  rw [← forget_callContractI cfg d blk ch addr en tr]
  rcases callContractI cfg d blk ch addr en tr with ⟨o, c, t⟩
  cases o with
  | ok resp => exact (hpost _).trans (congrArg post' (hP _ _ _ _ _))
  | _ => rfl

theorem processResponseI_succ_cons (cfg : Config E) (d : Dirt E) (blk : Block) (fuel : Nat) (ch : Chain E) (c : Addr)
    (resp : AppResponse) (sm : SubMsg) (rest : List SubMsg) (tr : Trace) :
    processResponseI cfg d blk (fuel + 1) ch c resp (sm :: rest) tr =
      (match executeSubmsgI cfg d blk fuel ch c sm tr with
       | (.ok sr, ch₁, tr₁) =>
         processResponseI cfg d blk fuel ch₁ c
           { events := resp.events ++ sr.events, data := sr.data.orElse fun _ => resp.data } rest tr₁
       | other => other) := by rfl

theorem executeSubmsgI_succ (cfg : Config E) (d : Dirt E) (blk : Block) (fuel : Nat) (ch : Chain E) (c : Addr)
    (sm : SubMsg) (tr : Trace) :
    executeSubmsgI cfg d blk (fuel + 1) ch c sm tr =
      (match transactionalI ch (executeI cfg d blk fuel ch c sm.msg tr) with
       | (.ok r, ch1, tr1) =>
         if wantsReplyOnOk sm.replyOn then
           (match replyI cfg d blk fuel ch1 c ⟨sm.id, sm.payload, .ok r.events r.data⟩ tr1 with
            | (.ok rr, ch2, tr2) => (.ok { events := r.events ++ rr.events, data := rr.data }, ch2, tr2)
            | other => other)
         else (.ok { r with data := none }, ch1, tr1)
       | (.err, ch0, tr1) =>
         if wantsReplyOnErr sm.replyOn then replyI cfg d blk fuel ch0 c ⟨sm.id, sm.payload, .err⟩ tr1
         else (.err, ch0, tr1)
       | (.panic, ch0, tr1) => (.panic, ch0, tr1)
       | (.outOfFuel, ch0, tr1) => (.outOfFuel, ch0, tr1)) := by
  -- unfolded by its equation, the recursive calls stay folded; `rfl` alone has the elaborator compare them as
  -- projections of the `Nat.brecOn` that the mutual block compiles to
  unfold executeSubmsgI
  rfl

end CwMt.EngineTx
