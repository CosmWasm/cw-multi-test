import CwMt.Proofs.Engine_Run
import CwMt.Proofs.Bank
/-
  CwMt.Proofs.EngineInv — the two instances of the induction `EngineInv.Runs_engine` that rest on facts about a module:
  `bankInv` (relation `BankR`, from `CwMt/Proofs/Bank.lean`; C09) and `regInv` (relation `RegR`, from the inversions of
  `updateAdmin` and `registerContract`; C11, C12).
-/
namespace CwMt.EngineInv
open CwMt CwMt.Engine
variable {E : Type}

def BankR (ch ch' : Chain E) : Prop :=
  Bank.NormInv ch.bank → Bank.NormInv ch'.bank ∧ ∀ d, Bank.supply ch'.bank d ≤ Bank.supply ch.bank d

theorem BankR_of_eq {ch ch' : Chain E} (h : ch'.bank = ch.bank) : BankR ch ch' := by
  intro hinv; rw [h]; exact ⟨hinv, fun _ => Nat.le_refl _⟩

theorem BankR.trans {ch ch1 ch2 : Chain E} (h1 : BankR ch ch1) (h2 : BankR ch1 ch2) : BankR ch ch2 := by
  intro hinv
  obtain ⟨i1, s1⟩ := h1 hinv
  obtain ⟨i2, s2⟩ := h2 i1
  exact ⟨i2, fun d => Nat.le_trans (s2 d) (s1 d)⟩

theorem BankR_send {ch : Chain E} {s : Addr} {to : String} {a : Coins} {b : Bank.State}
    (h : Bank.send ch.bank s to a = some b) : BankR ch { ch with bank := b } := fun hinv =>
  ⟨(Bank.run_spec (op := .send s to a) hinv h).1, fun d => Nat.le_of_eq (Bank.supply_send hinv h d)⟩

/-- `hb` is the first half of `C09.ExtBankFrame`, which stands with the property: `ExtFrame` constrains `cstore` and
`contracts`, not `bank`. -/
def bankInv (cfg : Config E) (blk : Block)
    (hb : ∀ k ch b s p r ch', cfg.extExec k ch b s p = .ok (r, ch') → ch'.bank = ch.bank) : StepInv cfg blk where
  R := fun _ ch _ ch' => BankR ch ch'
  trans := BankR.trans
  skip := fun _ h => h
  refl := fun _ _ => BankR_of_eq rfl
  bank := fun h => by
    obtain ⟨b, rfl, ⟨to, a, _, hs⟩ | ⟨a, _, hs⟩⟩ := EngineB.bankExecute_ok h
    · exact BankR_send hs
    · exact fun hinv => ⟨(Bank.burn_spec hinv hs).1, fun d => Nat.le.intro ((Bank.burn_spec hinv hs).2.2 d)⟩
  ext := fun h => BankR_of_eq (hb _ _ _ _ _ _ _ h)
  admin := fun h => by
    obtain ⟨cd, _, _, _, rfl⟩ := EngineB.updateAdmin_ok h
    exact BankR_of_eq rfl
  funds := fun h => by
    rcases EngineB.sendFunds_ok h with ⟨_, rfl⟩ | ⟨_, b, hs, rfl⟩
    · exact BankR_of_eq rfl
    · exact BankR_send hs
  register := fun h => BankR_of_eq (EngineB.registerContract_effect h).2.2.2.1
  migrate := fun _ _ _ => BankR_of_eq rfl
  call := fun _ h => h

def Involved (top : Addr) (new : Trace) (a : Addr) : Prop := a = top ∨ ∃ e ∈ new, e.callee = a

theorem Involved.mono {top a : Addr} {new new' : Trace} (h : Involved top new a) (hs : ∀ e ∈ new, e ∈ new') :
    Involved top new' a :=
  h.imp id fun ⟨e, he, hc⟩ => ⟨e, hs e he, hc⟩

/-- The admin in the right disjunct is the one AT THE START: once it was involved nothing more is claimed, which is what
lets `trans` compose. -/
def RegR (top : Addr) (ch : Chain E) (new : Trace) (ch' : Chain E) : Prop :=
  ∀ c cd, ch.contracts.get? c = some cd →
    ∃ cd', ch'.contracts.get? c = some cd' ∧ cd'.creator = cd.creator ∧ cd'.label = cd.label ∧
      cd'.created = cd.created ∧
      ((cd'.admin = cd.admin ∧ cd'.codeId = cd.codeId) ∨ ∃ a, cd.admin = some a ∧ Involved top new a)

theorem RegR_of_eq {top : Addr} {ch ch' : Chain E} {new : Trace} (h : ch'.contracts = ch.contracts) :
    RegR top ch new ch' := by
  intro c cd hc
  exact ⟨cd, by rw [h]; exact hc, rfl, rfl, rfl, Or.inl ⟨rfl, rfl⟩⟩

theorem RegR_set {top : Addr} {ch : Chain E} {new : Trace} {k : String} {cd0 cd1 : ContractData}
    (hk : ch.contracts.get? k = some cd0) (ha : cd0.admin = some top)
    (h1 : cd1.creator = cd0.creator) (h2 : cd1.label = cd0.label) (h3 : cd1.created = cd0.created) :
    RegR top ch new { ch with contracts := ch.contracts.set k cd1 } := by
  intro c cd hc
  by_cases hck : c = k
  · subst hck
    rw [hk] at hc
    cases hc
    exact ⟨cd1, AMap.get?_set_self _ _ _, h1, h2, h3, Or.inr ⟨top, ha, Or.inl rfl⟩⟩
  · exact ⟨cd, by simp only; rw [AMap.get?_set_ne _ _ hck]; exact hc, rfl, rfl, rfl, Or.inl ⟨rfl, rfl⟩⟩

theorem RegR.mono {top top' : Addr} {ch ch' : Chain E} {new new' : Trace} (h : RegR top ch new ch')
    (hi : ∀ a, Involved top new a → Involved top' new' a) : RegR top' ch new' ch' := by
  intro c cd hc
  obtain ⟨cd1, g1, a1, b1, c1, d1⟩ := h c cd hc
  exact ⟨cd1, g1, a1, b1, c1, d1.imp id fun ⟨a, ha, hw⟩ => ⟨a, ha, hi a hw⟩⟩

theorem RegR.trans {top : Addr} {ch ch1 ch2 : Chain E} {n1 n2 : Trace}
    (h1 : RegR top ch n1 ch1) (h2 : RegR top ch1 n2 ch2) : RegR top ch (n1 ++ n2) ch2 := by
  intro c cd hc
  obtain ⟨cd1, g1, a1, b1, c1, d1⟩ := h1 c cd hc
  obtain ⟨cd2, g2, a2, b2, c2, d2⟩ := h2 c cd1 g1
  refine ⟨cd2, g2, a2.trans a1, b2.trans b1, c2.trans c1, ?_⟩
  rcases d1 with ⟨e1, e2⟩ | ⟨a, ha, hw⟩
  · rcases d2 with ⟨f1, f2⟩ | ⟨a, ha, hw⟩
    · exact .inl ⟨f1.trans e1, f2.trans e2⟩
    · exact .inr ⟨a, e1 ▸ ha, hw.mono fun _ => List.mem_append_right n1⟩
  · exact .inr ⟨a, ha, hw.mono fun _ => List.mem_append_left n2⟩

/-- what the invoked contract did as sender is, for its caller, done by the callee of a recorded invocation -/
theorem RegR.call {top addr : Addr} {ch ch3 : Chain E} {own' : Store Val} {e : TraceEntry} {n : Trace}
    (he : e.callee = addr)
    (h : RegR addr { ch with cstore := ch.cstore.set addr own' } n ch3) : RegR top ch (e :: n) ch3 := by
  refine h.mono fun a hw => .inr ?_
  rcases hw with h | ⟨e', he', hce⟩
  · exact ⟨e, List.mem_cons_self, he.trans h.symm⟩
  · exact ⟨e', List.mem_cons_of_mem _ he', hce⟩

def regInv (cfg : Config E) (blk : Block) (hf : ExtFrame cfg) : StepInv cfg blk where
  R := RegR
  trans := RegR.trans
  skip := fun n1 h => h.mono fun _ hw => hw.mono fun _ => List.mem_append_right n1
  refl := fun _ _ => RegR_of_eq rfl
  bank := fun h => by obtain ⟨b, rfl, _⟩ := EngineB.bankExecute_ok h; exact RegR_of_eq rfl
  ext := fun h => RegR_of_eq (hf.1 _ _ _ _ _ _ _ h).2
  admin := fun h => by
    obtain ⟨cd, hc, had, _, rfl⟩ := EngineB.updateAdmin_ok h
    exact RegR_set hc had rfl rfl rfl
  funds := fun h => by rcases EngineB.sendFunds_ok h with ⟨_, rfl⟩ | ⟨_, b, _, rfl⟩ <;> exact RegR_of_eq rfl
  register := fun h => by
    obtain ⟨hn, _, hoth, _, _⟩ := EngineB.registerContract_effect h
    intro c cd hc
    refine ⟨cd, (hoth c fun e => ?_).trans hc, rfl, rfl, rfl, Or.inl ⟨rfl, rfl⟩⟩
    rw [e, hn] at hc
    cases hc
  migrate := fun _ hc had => RegR_set hc had rfl rfl rfl
  call := RegR.call

end CwMt.EngineInv
