import CwMt.Model.Bech32
/-
  The character level of the Bech32 model: case, the character set, the data part (`symsOf`) and the separator
  search (`splitLast1`). Nothing here looks at the checksum or at the bit regrouping.

  The character set is three 32-entry tables (`symOf_charOf`, `charOf_ne_one`, `charOf_not_upper`); the two parsers
  get iff specifications in terms of `lower`, `map charOf` and `++` (`symsOf_eq_some_iff`, `splitLast1_eq_some_iff`),
  so that their users reason about lists of characters and never unfold them.
-/
namespace CwMt.Bech32

theorem toLower_of_not_upper {c : Char} (h : c.isUpper = false) : c.toLower = c := by
  unfold Char.isUpper at h
  unfold Char.toLower
  simp only [decide_eq_false_iff_not] at h
  rw [dif_neg h]

theorem isUpper_toLower (c : Char) : c.toLower.isUpper = false := by
  unfold Char.isUpper Char.toLower
  split
  · next h =>
    -- an uppercase letter moves up by 32, out of the range of the uppercase letters
    simp only [ge_iff_le, UInt32.le_iff_toNat_le, UInt32.toNat_add, seval, decide_eq_false_iff_not] at h ⊢
    omega
  · next h => simpa using h

theorem hasUpper_append (a b : List Char) : hasUpper (a ++ b) = (hasUpper a || hasUpper b) := List.any_append

theorem lower_mem_of_not_upper (p : List Char) (hp : hasUpper p = false) (a : Char) (ha : a ∈ p) :
    a.toLower = a := by
  apply toLower_of_not_upper
  simp only [hasUpper, List.any_eq_false] at hp
  simpa using hp a ha

theorem lower_eq_self {p : List Char} (h : hasUpper p = false) : lower p = p :=
  (List.map_congr_left (lower_mem_of_not_upper p h)).trans (List.map_id p)

theorem hasUpper_lower (p : List Char) : hasUpper (lower p) = false := by
  simp [hasUpper, lower, isUpper_toLower]

theorem lower_length (p : List Char) : (lower p).length = p.length := List.length_map _

theorem lower_cons (c : Char) (cs : List Char) : lower (c :: cs) = c.toLower :: lower cs := rfl

theorem lower_append (a b : List Char) : lower (a ++ b) = lower a ++ lower b := List.map_append

theorem hrpExpand_lower (h : List Char) : hrpExpand (lower h) = hrpExpand h := by
  simp [hrpExpand, lower, List.map_map, Function.comp_def, toLower_of_not_upper (isUpper_toLower _)]

theorem symOf_charOf : ∀ v : Sym, symOf (charOf v) = some v := by decide +kernel
theorem charOf_ne_one : ∀ v : Sym, charOf v ≠ '1' := by decide +kernel
theorem charOf_not_upper : ∀ v : Sym, (charOf v).isUpper = false := by decide +kernel

theorem charOf_inj {a b : Sym} (h : charOf a = charOf b) : a = b := by
  have := symOf_charOf a
  rw [h, symOf_charOf] at this
  exact (Option.some.inj this).symm

theorem map_charOf_inj {a b : List Sym} (h : a.map charOf = b.map charOf) : a = b :=
  (List.map_inj_right fun _ _ => charOf_inj).mp h

theorem hasUpper_map_charOf (vs : List Sym) : hasUpper (vs.map charOf) = false := by
  simp [hasUpper, charOf_not_upper]

theorem one_not_mem_map_charOf (vs : List Sym) : '1' ∉ vs.map charOf := by
  simp only [List.mem_map, not_exists, not_and]
  intro v _ h; exact charOf_ne_one v h

theorem symOf_eq_some_iff {c : Char} {v : Sym} : symOf c = some v ↔ c.toLower = charOf v := by
  constructor
  · -- `symOf` finds the index of `c.toLower` in the table, `charOf` looks it up again
    intro h
    simp only [symOf, Option.ite_none_right_eq_some, Option.some.injEq] at h
    obtain ⟨hlt, rfl⟩ := h
    have hlt' : charset.idxOf c.toLower < charset.length := hlt
    rw [charOf, BitVec.toNat_ofNat, Nat.mod_eq_of_lt hlt, List.getD_eq_getElem?_getD, List.getElem?_eq_getElem hlt',
      Option.getD_some, List.getElem_idxOf]
  · intro h
    have := symOf_charOf v
    rwa [symOf, toLower_of_not_upper (charOf_not_upper v), ← h] at this

theorem symsOf_cons_eq_some_iff {c : Char} {cs : List Char} {s : List Sym} :
    symsOf (c :: cs) = some s ↔ ∃ v vs, symOf c = some v ∧ symsOf cs = some vs ∧ s = v :: vs := by
  rw [symsOf]
  cases symOf c <;> cases symsOf cs <;> simp [eq_comm]

theorem symsOf_eq_some_iff {d : List Char} {syms : List Sym} :
    symsOf d = some syms ↔ lower d = syms.map charOf := by
  induction d generalizing syms with
  | nil => cases syms <;> simp [symsOf, lower]
  | cons c cs ih =>
    rw [symsOf_cons_eq_some_iff]
    constructor
    · rintro ⟨v, vs, h1, h2, rfl⟩
      rw [lower_cons, List.map_cons, symOf_eq_some_iff.mp h1, ih.mp h2]
    · intro h
      cases syms with
      | nil => cases h
      | cons v vs =>
        rw [lower_cons, List.map_cons, List.cons.injEq] at h
        exact ⟨v, vs, symOf_eq_some_iff.mpr h.1, ih.mpr h.2, rfl⟩

theorem symsOf_map_charOf (vs : List Sym) : symsOf (vs.map charOf) = some vs :=
  symsOf_eq_some_iff.mpr (lower_eq_self (hasUpper_map_charOf vs))

theorem symsOf_no_one (d : List Char) (s : List Sym) (h : symsOf d = some s) : '1' ∉ d := by
  intro hm
  have : '1' ∈ lower d := List.mem_map.mpr ⟨'1', hm, rfl⟩
  rw [symsOf_eq_some_iff.mp h] at this
  exact one_not_mem_map_charOf s this

theorem splitLast1_eq_none_iff {s : List Char} : splitLast1 s = none ↔ '1' ∉ s := by
  induction s with
  | nil => simp [splitLast1]
  | cons c cs ih =>
    rw [splitLast1]
    cases h : splitLast1 cs with
    | none => simp [ih.mp h, eq_comm]
    | some hd => simp [mt ih.mpr (by simp [h])]

theorem splitLast1_append (h : List Char) {d : List Char} (hd : '1' ∉ d) : splitLast1 (h ++ '1' :: d) = some (h, d) := by
  induction h with
  | nil => rw [List.nil_append, splitLast1, splitLast1_eq_none_iff.mpr hd, if_pos rfl]
  | cons x h ih => rw [List.cons_append, splitLast1, ih]

theorem splitLast1_eq_some_iff {s h d : List Char} :
    splitLast1 s = some (h, d) ↔ s = h ++ '1' :: d ∧ '1' ∉ d := by
  refine ⟨fun e => ?_, fun ⟨e, hd⟩ => e ▸ splitLast1_append h hd⟩
  induction s generalizing h with
  | nil => cases e
  | cons c cs ih =>
    rw [splitLast1] at e
    cases hs : splitLast1 cs with
    | none =>
      rw [hs] at e
      by_cases hc : c = '1'
      · rw [if_pos hc] at e; cases e; exact ⟨by rw [hc]; rfl, splitLast1_eq_none_iff.mp hs⟩
      · rw [if_neg hc] at e; cases e
    | some hd =>
      rw [hs] at e; cases e
      obtain ⟨rfl, h2⟩ := ih hs
      exact ⟨rfl, h2⟩

end CwMt.Bech32
