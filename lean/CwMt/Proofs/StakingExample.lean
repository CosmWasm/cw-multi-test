import CwMt.Proofs.StakingInv
/- a concrete set-up chain used by the non-vacuity examples of C14–C16 -/
namespace CwMt
namespace Staking

def exCfg : Cfg := { pool := "pool", valid := fun a => a ≠ "bad" ∧ a ≠ "pool" }

def exBank : Bank.State := [("d1", [⟨"TOKEN", 100⟩]), ("d2", [⟨"TOKEN", 100⟩])]

theorem exBank_wf : BankFacts.WF exBank := by
  have h1 : Bank.mint [] "d1" [⟨"TOKEN", 100⟩] = some [("d1", [⟨"TOKEN", 100⟩])] := by decide
  have h2 : Bank.mint [("d1", [⟨"TOKEN", 100⟩])] "d2" [⟨"TOKEN", 100⟩] = some exBank := by decide
  exact BankFacts.WF_mint (BankFacts.WF_mint BankFacts.WF_nil h1) h2

/-- TOKEN, unbonding time 60 s, 100 % apr; `v1` without commission, `v2` with 10 % -/
def exChain : Chain :=
  freshChain ⟨"TOKEN", 60, ⟨Dec.ONE⟩⟩ [⟨"v1", ⟨0⟩⟩, ⟨"v2", ⟨100000000000000000⟩⟩] exBank 0 0

theorem exChain_inv : Inv exCfg exChain := by
  apply Inv_freshChain
  · intro vo hvo
    simp only [List.mem_cons, List.mem_nil_iff, or_false] at hvo
    rcases hvo with rfl | rfl <;> decide
  · exact exBank_wf

/-- the history of defect D3 (DESIGN.md section 6): seven operations, the last of which panicked -/
def d3History : List Op :=
  [.delegate "d1" "v1" ⟨"TOKEN", 2⟩, .delegate "d2" "v1" ⟨"TOKEN", 10⟩, .undelegate "d1" "v1" ⟨"TOKEN", 1⟩,
   .slash "v1" ⟨500000000000000000⟩, .advance 61000000000, .advance 1000000000, .delegate "d2" "v1" ⟨"TOKEN", 1⟩]

end Staking
end CwMt
