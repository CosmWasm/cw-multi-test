import CwMt.Model.Executor
import CwMt.Proofs.EngineB_Wire
import CwMt.Proofs.Engine_Call
import CwMt.Proofs.Engine_App
/-
  CwMt.Proofs.Executor — the `Executor` helpers never fail after their transaction was committed: the cw-utils
  parsers accept everything the engine's encoders produce (C01, "the helpers built on them"). First the parsers on the
  encoders, then the helpers; what a successful run hands back is `Engine.execute_wasmInstantiate_ok` / `execute_wasmExecute_ok`.
-/
namespace CwMt.ExecutorP
open CwMt CwMt.Engine

theorem parseVarint_varint (n : Nat) (rest : List UInt8) (h : n < 128 ^ 9) :
    parseVarint (varint n ++ rest) = some (n, rest) := by
  unfold parseVarint varint
  rw [EngineB.unvarintAux_varintAux 9 8 n 0 0 rest (Nat.lt_trans h (by decide)) h]
  simp

theorem parseLP_lenField (field : Nat) (tag : UInt8) (bs rest : List UInt8) (hf : tag.toNat / 8 = field)
    (hw : tag.toNat % 4 = 2) (hne : bs ≠ []) (h : bs.length < 128 ^ 9) :
    parseLP field (lenField tag bs ++ rest) = some (bs, rest) := by
  unfold lenField
  cases bs with
  | nil => exact absurd rfl hne
  | cons b bs' =>
    simp only [List.isEmpty_cons, Bool.false_eq_true, if_false, List.cons_append, parseLP, List.append_assoc]
    rw [if_neg (by simp [hf]), if_neg (by simp [hw])]
    rw [parseVarint_varint _ _ h]
    simp

/-- the last field of a message may be empty, hence absent: nothing is left to read -/
theorem parseLP_lenField_end (field : Nat) (tag : UInt8) (bs : List UInt8) (hf : tag.toNat / 8 = field)
    (hw : tag.toNat % 4 = 2) (h : bs.length < 128 ^ 9) : parseLP field (lenField tag bs) = some (bs, []) := by
  cases bs with
  | nil => rfl
  | cons b bs' => simpa using parseLP_lenField field tag (b :: bs') [] hf hw nofun h

theorem lenField_length_le (tag : UInt8) (bs : List UInt8) : bs.length ≤ (lenField tag bs).length := by
  unfold lenField
  split
  · rename_i h; simp [List.isEmpty_iff.mp h]
  · simp; omega

theorem parse_instantiate_encode (addr : String) (d : List UInt8) (ha : addr.toUTF8.toList ≠ [])
    (hlen : (encodeInstantiateResponse addr d).length < 128 ^ 9) :
    parseInstantiateResponseData (encodeInstantiateResponse addr d) =
      some (addr.toUTF8.toList, if d.isEmpty then none else some d) := by
  unfold encodeInstantiateResponse at hlen ⊢
  rw [List.length_append] at hlen
  have h1 : addr.toUTF8.toList.length < 128 ^ 9 :=
    Nat.lt_of_le_of_lt (Nat.le_trans (lenField_length_le 0x0a _) (Nat.le_add_right _ _)) hlen
  have h2 : d.length < 128 ^ 9 :=
    Nat.lt_of_le_of_lt (Nat.le_trans (lenField_length_le 0x12 _) (Nat.le_add_left _ _)) hlen
  unfold parseInstantiateResponseData
  rw [parseLP_lenField 1 0x0a _ _ (by decide) (by decide) ha h1]
  dsimp only
  rw [parseLP_lenField_end 2 0x12 d (by decide) (by decide) h2]

theorem parse_execute_encode (d : List UInt8) (hlen : (encodeExecuteResponse d).length < 128 ^ 9) :
    parseExecuteResponseData (encodeExecuteResponse d) = some (if d.isEmpty then none else some d) := by
  unfold encodeExecuteResponse at hlen ⊢
  unfold parseExecuteResponseData
  rw [parseLP_lenField_end 1 0x0a d (by decide) (by decide) (Nat.lt_of_le_of_lt (lenField_length_le 0x0a d) hlen)]

variable {E : Type}

/-- With an empty address the encoder omits field 1 and the cw-utils parser rejects the response of a transaction
already committed (`C01.helper_instantiate_needs_nonempty_address`); only a custom `AddressGenerator` can hand one out. -/
def GenNonEmpty (cfg : Config E) : Prop :=
  (∀ c i a, cfg.addrClassic c i = .ok a → a.toUTF8.toList ≠ []) ∧
  (∀ k c s a, cfg.addrSalted k c s = .ok a → a.toUTF8.toList ≠ [])

theorem registerContract_addr_ne_nil {cfg : Config E} (hg : GenNonEmpty cfg) {ch ch₀ : Chain E} {codeId : Nat} {s : Addr}
    {admin : Option Addr} {label : String} {created : Nat} {salt : Option Val} {addr : Addr}
    (h : registerContract cfg ch codeId s admin label created salt = .ok (addr, ch₀)) : addr.toUTF8.toList ≠ [] := by
  have ha := (EngineB.registerContract_ok h).2.1
  cases salt with
  | none => exact hg.1 _ _ _ ha
  | some sl =>
    obtain ⟨cd, _, _, ha⟩ := ha
    exact hg.2 _ _ _ _ ha

section
variable {cfg : Config E} {blk : Block} {fuel : Nat} {ch : Chain E} {s : Addr}

/-- `hsize`: `128 ^ 9` = 2⁶³ is what the `VARINT_MAX_BYTES = 9` of cw-utils can express (`parseVarint`); a hypothesis on the
result, because the size of `data` is the contract's. -/
theorem instantiateContract_result (hg : GenNonEmpty cfg) {codeId : Nat} {m : Val} {funds : Coins} {label : String}
    {admin : Option String} {salt : Option Val}
    (hsize : ∀ r c t, App.execute cfg blk fuel ch s (.wasmInstantiate admin codeId m funds label salt) = (.ok r, c, t) →
      (r.data.getD []).length < 128 ^ 9)
    {o : Outcome (List UInt8)} {ch' : Chain E} {tr : Trace}
    (h : Executor.instantiateContract cfg blk fuel ch s codeId m funds label admin salt = (o, ch', tr)) :
    ∃ o₁, App.execute cfg blk fuel ch s (.wasmInstantiate admin codeId m funds label salt) = (o₁, ch', tr) ∧
      o₁.isOk = o.isOk ∧
      ∀ r, o₁ = .ok r → ∃ addr ch₀, registerContract cfg ch codeId s admin label blk.height salt = .ok (addr, ch₀) ∧
        o = .ok addr.toUTF8.toList := by
  unfold Executor.instantiateContract at h
  rcases hx : App.execute cfg blk fuel ch s (.wasmInstantiate admin codeId m funds label salt) with ⟨o₁, c, t⟩
  rw [hx] at h
  cases o₁ with
  | ok r =>
    obtain ⟨addr, ch₀, d, hreg, hd⟩ := execute_wasmInstantiate_ok (app_execute_ok hx)
    have hs := hsize r c t hx
    simp only [hd, Option.getD_some] at h hs
    rw [parse_instantiate_encode addr d (registerContract_addr_ne_nil hg hreg) hs] at h
    cases h
    exact ⟨_, rfl, rfl, fun _ _ => ⟨addr, ch₀, hreg, rfl⟩⟩
  | _ => cases h; exact ⟨_, rfl, rfl, fun _ hr => by cases hr⟩

theorem executeContract_result {contract : String} {m : Val} {funds : Coins}
    (hsize : ∀ r c t, App.execute cfg blk fuel ch s (.wasmExecute contract m funds) = (.ok r, c, t) →
      (r.data.getD []).length < 128 ^ 9)
    {o : Outcome AppResponse} {ch' : Chain E} {tr : Trace}
    (h : Executor.executeContract cfg blk fuel ch s contract m funds = (o, ch', tr)) :
    ∃ o₁, App.execute cfg blk fuel ch s (.wasmExecute contract m funds) = (o₁, ch', tr) ∧ o₁.isOk = o.isOk := by
  unfold Executor.executeContract at h
  rcases hx : App.execute cfg blk fuel ch s (.wasmExecute contract m funds) with ⟨o₁, c, t⟩
  rw [hx] at h
  cases o₁ with
  | ok r =>
    obtain ⟨r₀, rfl⟩ := execute_wasmExecute_ok (app_execute_ok hx)
    have hs := hsize _ c t hx
    cases hd : r₀.data with
    | none => simp only [hd, Option.map_none] at h; cases h; exact ⟨_, rfl, rfl⟩
    | some d₀ =>
      simp only [hd, Option.map_some, Option.getD_some] at h hs
      rw [parse_execute_encode d₀ hs] at h
      cases h
      exact ⟨_, rfl, rfl⟩
  | _ => cases h; exact ⟨_, rfl, rfl⟩
end

end CwMt.ExecutorP
