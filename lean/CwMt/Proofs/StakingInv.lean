import CwMt.Proofs.Staking
import CwMt.Proofs.StakingBank
/-
  CwMt.Proofs.StakingInv — the chain-level invariant `Inv` (I1–I4 of DESIGN.md C14, I5 = `tinv`, and the side conditions the
  proof needs), its preservation by every operation (`Inv_delegate` … `Inv_run`) and by block updates
  (`processQueue_succeeds`, `advance_succeeds`: they also say what the block update does, as a `QueueRun`), what no
  operation changes (`run_fixed`), and absence of panics (`run_safe`, `Inv_runAll`).

  A new constructor of `Op` needs a case in `run_safe`, `Inv_run`, `run_fixed` and `run_pair` (StakingHistory), and in
  `Op.okFor`, `Op.updates`, `Op.restakes`, `Op.isWithdrawOf`. `Op` has no `setup` and no `add_validator`: `Inv` is about a
  chain with fixed parameters (`queue_bound` needs a fixed `unbondingTime`) and a fixed validator list.
-/
namespace CwMt
namespace Staking
open KMap Outcome

/-- the invariant of the staking machine.
  * `sinv`        I1 every staker of a validator has a record, I2 every record's owner is a staker, commissions ≤ 1
  * `sorted`, `queue_bound`   I3 the unbonding queue is sorted by payout time; no entry lies further ahead than the
                  unbonding time, so that appending one at `time + NS·unbondingTime` keeps it sorted
  * `covered`     I4 the pool balance covers all validator totals plus all queued amounts
  * `last_le`     no reward calculation lies in the future (monotone block time)
  * `no_pool`     the pool account never undelegated (nobody signs as `staking_module`): a payout then takes exactly its
                  amount from the pool's balance (`payOne_succeeds`)
  * `bank_wf`     every balance stored by the bank reads, per denom, as the sum of its entries
  * `tinv`        I5 a validator's total is at least the whole tokens of the sum of the shares of its records -/
structure Inv (cfg : Cfg) (c : Chain) : Prop where
  sinv : SInv c.st
  sorted : c.st.queue.Pairwise (fun a b => a.payoutAt ≤ b.payoutAt)
  queue_bound : ∀ u ∈ c.st.queue, u.payoutAt ≤ c.time + NS * c.st.info.unbondingTime
  covered : totalStake c.st.vinfo + queueTotal c.st.queue ≤ poolBal cfg c
  last_le : LastLe c.st c.time
  no_pool : ∀ u ∈ c.st.queue, u.delegator ≠ cfg.pool
  bank_wf : BankFacts.WF c.bank
  tinv : TInv c.st

def paidTo (pre : List Unbonding) (x : Addr) : Nat := ((pre.filter fun u => u.delegator = x).map (·.amount)).sum

/-- a valid operation: the pool account itself does not delegate or undelegate -/
def Op.okFor (cfg : Cfg) : Op → Prop
  | .delegate a _ _ => a ≠ cfg.pool
  | .undelegate a _ _ => a ≠ cfg.pool
  | _ => True

def runAll (cfg : Cfg) : Chain → List Op → Chain × List Res
  | c, [] => (c, [])
  | c, op :: ops =>
    let r := step cfg c op
    let rest := runAll cfg r.1 ops
    (rest.1, r.2 :: rest.2)

/-- the chain right after set-up: parameters `info`, validators `vals` (added at block time `t`), no delegation yet -/
def freshChain (info : StakingInfo) (vals : List Validator) (bank : Bank.State) (t h : Nat) : Chain :=
  ⟨{ info := info, validators := vals, stakes := [], vinfo := vals.map (fun v => (v.address, ValInfo.new t)),
     queue := [], withdraw := [] }, bank, t, h⟩

theorem queueTotal_append (q : List Unbonding) (u : Unbonding) : queueTotal (q ++ [u]) = queueTotal q + u.amount := by
  simp [queueTotal, List.sum_append]

theorem queueTotal_cons (q : List Unbonding) (u : Unbonding) : queueTotal (u :: q) = u.amount + queueTotal q := by
  simp [queueTotal]

theorem paidTo_cons (u : Unbonding) (pre : List Unbonding) (x : Addr) :
    paidTo (u :: pre) x = (if u.delegator = x then u.amount else 0) + paidTo pre x :=
  sum_filter_cons (fun u : Unbonding => u.delegator = x) _ u pre

/-- a slash touches the amounts of the queue entries and nothing else -/
theorem slashQueue_eq_map (q : List Unbonding) (v : String) (rem : Dec) :
    slashQueue q v rem =
      q.map fun u => { u with amount := if u.validator = v then Dec.mulFloor u.amount rem else u.amount } :=
  List.map_congr_left fun u _ => by split <;> rfl

theorem slashQueue_payoutAt (q : List Unbonding) (v : String) (rem : Dec) :
    (slashQueue q v rem).map (·.payoutAt) = q.map (·.payoutAt) := by
  rw [slashQueue_eq_map, List.map_map]; rfl

theorem slashQueue_length (q : List Unbonding) (v : String) (rem : Dec) : (slashQueue q v rem).length = q.length :=
  List.length_map _

theorem mem_slashQueue {q : List Unbonding} {v : String} {rem : Dec} {u' : Unbonding} (h : u' ∈ slashQueue q v rem) :
    ∃ u ∈ q, u' = { u with amount := if u.validator = v then Dec.mulFloor u.amount rem else u.amount } := by
  rw [slashQueue_eq_map, List.mem_map] at h
  obtain ⟨u, hu, rfl⟩ := h
  exact ⟨u, hu, rfl⟩

theorem forall_mem_slashQueue {P : Unbonding → Prop} {q : List Unbonding} (v : String) (rem : Dec)
    (hP : ∀ u n, P u → P { u with amount := n }) (h : ∀ u ∈ q, P u) : ∀ u ∈ slashQueue q v rem, P u := by
  intro u' hu'
  obtain ⟨u, hu, rfl⟩ := mem_slashQueue hu'
  exact hP u _ (h u hu)

theorem queueTotal_slashQueue_le (q : List Unbonding) (v : String) (rem : Dec) (h : rem.atomics ≤ Dec.ONE) :
    queueTotal (slashQueue q v rem) ≤ queueTotal q := by
  rw [slashQueue_eq_map, queueTotal, List.map_map]
  refine sum_map_le _ _ q fun u _ => ?_
  show (if u.validator = v then Dec.mulFloor u.amount rem else u.amount) ≤ u.amount
  split
  · exact Dec.mulFloor_le _ h
  · exact Nat.le_refl _

theorem sorted_slashQueue {q : List Unbonding} (v : String) (rem : Dec)
    (h : q.Pairwise (fun a b => a.payoutAt ≤ b.payoutAt)) :
    (slashQueue q v rem).Pairwise (fun a b => a.payoutAt ≤ b.payoutAt) := by
  rw [slashQueue_eq_map]; exact List.pairwise_map.mpr h

variable {cfg : Cfg} {c c' : Chain} {a : Addr} {v : String} {coin : Coin}

/-- the invariant after an operation that leaves queue, parameters and block time alone: what is left to show is the
storage part, and that the pool gained at least what the validator totals did -/
theorem Inv.of_same_queue (hi : Inv cfg c) (hq : c'.st.queue = c.st.queue)
    (hinfo : c'.st.info = c.st.info) (htime : c'.time = c.time) (hs : SInv c'.st) (ht : TInv c'.st)
    (hl : LastLe c'.st c.time) (hwf : BankFacts.WF c'.bank)
    (hcov : totalStake c'.st.vinfo + poolBal cfg c ≤
      totalStake c.st.vinfo + Bank.queryBalance c'.bank cfg.pool c.st.info.bondedDenom) : Inv cfg c' := by
  refine ⟨hs, hq ▸ hi.sorted, ?_, ?_, htime ▸ hl, hq ▸ hi.no_pool, hwf, ht⟩
  · rw [hq, hinfo, htime]; exact hi.queue_bound
  · rw [hq, poolBal, hinfo]
    refine Nat.le_of_add_le_add_left (a := totalStake c.st.vinfo) ?_
    rw [Nat.add_left_comm]
    exact Nat.le_trans (Nat.add_le_add_left hi.covered _) hcov

theorem Inv_delegate (hi : Inv cfg c) (hs : a ≠ cfg.pool) (h : delegate cfg c a v coin = .ok c') : Inv cfg c' := by
  obtain ⟨_, hden, st, bank, hst, hb, rfl⟩ := delegate_ok h
  have sp := updateStake_spec hst
  refine hi.of_same_queue sp.queue sp.info rfl (sp.sinv hi.sinv) (TInv_updateStake hi.tinv hst) (sp.lastle hi.last_le)
    (BankFacts.WF_send hi.bank_wf hb) ?_
  -- the pool received the amount that the validator total grew by
  have hpool := BankFacts.queryBalance_send_single hi.bank_wf hb cfg.pool coin.denom
  rw [if_neg (fun e => hs e.1.symm), if_pos ⟨rfl, rfl⟩, hden, Nat.add_zero] at hpool
  rw [hpool, ← Nat.add_assoc, Nat.add_right_comm]
  exact Nat.add_le_add_right (sp.total_add rfl) _

theorem Inv_undelegate (hi : Inv cfg c) (hs : a ≠ cfg.pool) (h : undelegate c a v coin = .ok c') : Inv cfg c' := by
  obtain ⟨_, _, st, hst, rfl⟩ := undelegate_ok_iff.mp h
  have sp := updateStake_spec hst
  have hnew : ∀ u ∈ st.queue, u.payoutAt ≤ c.time + NS * st.info.unbondingTime := by
    rw [sp.queue, sp.info]; exact hi.queue_bound
  refine ⟨(sp.sinv hi.sinv).of_same_shape (fun _ => rfl) (fun _ => rfl) rfl, ?_, ?_, ?_, sp.lastle hi.last_le, ?_,
    hi.bank_wf, fun w => TInv_updateStake hi.tinv hst w⟩
  · refine List.pairwise_append.mpr ⟨sp.queue ▸ hi.sorted, List.pairwise_singleton _ _, fun x hx y hy => ?_⟩
    rw [List.mem_singleton.mp hy]; exact hnew x hx
  · exact List.forall_mem_append.mpr ⟨hnew, List.forall_mem_singleton.mpr (Nat.le_refl _)⟩
  · -- the validator total fell by the amount that the queue grew by
    show totalStake st.vinfo + queueTotal (st.queue ++ [_]) ≤ Bank.queryBalance c.bank cfg.pool st.info.bondedDenom
    rw [queueTotal_append, sp.queue, sp.info, ← Nat.add_assoc, Nat.add_right_comm]
    exact Nat.le_trans (Nat.add_le_add_right (sp.total_sub rfl) _) hi.covered
  · exact List.forall_mem_append.mpr ⟨sp.queue ▸ hi.no_pool, List.forall_mem_singleton.mpr hs⟩

theorem Inv_redelegate {v2 : String} (hi : Inv cfg c) (h : redelegate c a v v2 coin = .ok c') : Inv cfg c' := by
  obtain ⟨_, st1, st2, h1, h2, rfl⟩ := redelegate_ok h
  have s1 := updateStake_spec h1
  have s2 := updateStake_spec h2
  refine hi.of_same_queue (s2.queue.trans s1.queue) (s2.info.trans s1.info) rfl (s2.sinv (s1.sinv hi.sinv))
    (TInv_updateStake (TInv_updateStake hi.tinv h1) h2) (s2.lastle (s1.lastle hi.last_le)) hi.bank_wf
    (Nat.add_le_add_right (Nat.le_trans (s2.total_add rfl) (s1.total_sub rfl)) _)

theorem Inv_sudoSlash {pct : Dec} (hi : Inv cfg c) (h : sudoSlash c v pct = .ok c') : Inv cfg c' := by
  obtain ⟨_, s1, vi1, st, h1, hv1, hst, rfl⟩ := sudoSlash_ok h
  have ur := updateRewards_spec h1
  have hi1 := SInv_updateRewards hi.sinv ur
  have ht1 := TInv_updateRewards hi.tinv h1
  obtain ⟨_, _, est, _⟩ := applySlash_ok hi1 hv1 hst
  have hq : st.queue = slashQueue c.st.queue v (remOf pct) := by rw [est, ← ur.queue]
  have hinfo : st.info = c.st.info := by rw [est]; exact ur.info
  refine ⟨SInv_applySlash hi1 hv1 hst, ?_, ?_, ?_, LastLe_applySlash hi1 (LastLe_updateRewards hi.last_le ur) hv1 hst, ?_,
    hi.bank_wf, TInv_applySlash hi1 ht1 hv1 hst⟩
  · rw [hq]; exact sorted_slashQueue _ _ hi.sorted
  · rw [hq, hinfo]; exact forall_mem_slashQueue _ _ (fun _ _ h => h) hi.queue_bound
  · -- neither the validator totals nor the queued amounts grow
    show totalStake st.vinfo + queueTotal st.queue ≤ Bank.queryBalance c.bank cfg.pool st.info.bondedDenom
    rw [hq, hinfo]
    exact Nat.le_trans (Nat.add_le_add (Nat.le_trans (totalStake_applySlash hi1 ht1 hv1 (remOf_le_one pct) hst) ur.total)
      (queueTotal_slashQueue_le c.st.queue v (remOf pct) (remOf_le_one pct))) hi.covered
  · rw [hq]; exact forall_mem_slashQueue _ _ (fun _ _ h => h) hi.no_pool

theorem Inv_withdrawRewards (hi : Inv cfg c) (h : withdrawRewards cfg c a v = .ok c') : Inv cfg c' := by
  obtain ⟨st, sh, bank, hst, hsh, _, hb, rfl⟩ := withdrawRewards_ok h
  have ur := updateRewards_spec hst
  refine hi.of_same_queue ur.queue ur.info rfl (SInv_set_rewards (SInv_updateRewards hi.sinv ur) _ sh _ hsh)
    (TInv_set_rewards (TInv_updateRewards hi.tinv hst) _ sh _ hsh) (fun w => LastLe_updateRewards hi.last_le ur w)
    (BankFacts.WF_mint hi.bank_wf hb) ?_
  -- minting can only add to the pool's balance
  rw [BankFacts.queryBalance_mint_single hi.bank_wf hb cfg.pool c.st.info.bondedDenom]
  exact Nat.add_le_add ur.total (Nat.le_add_right _ _)

theorem Inv_setWithdraw {b : Addr} (hi : Inv cfg c) (h : setWithdraw cfg c a b = .ok c') : Inv cfg c' := by
  cases (setWithdraw_ok h).2
  exact hi.of_same_queue rfl rfl rfl (hi.sinv.of_same_shape (fun _ => rfl) (fun _ => rfl) rfl) hi.tinv hi.last_le
    hi.bank_wf (Nat.le_refl _)

/-- the pool can pay by I4 (`hcov`); `hnp` makes the pool's loss exactly the amount -/
theorem payOne_succeeds (s : SState) {bank : Bank.State} {u : Unbonding} (rest : List Unbonding)
    (hwf : BankFacts.WF bank) (hnp : u.delegator ≠ cfg.pool)
    (hcov : u.amount ≤ Bank.queryBalance bank cfg.pool s.info.bondedDenom) :
    ∃ bank1, payOne cfg s bank u rest = .ok (dropIfEmpty s u rest, bank1) ∧ BankFacts.WF bank1 ∧
      Bank.queryBalance bank1 cfg.pool s.info.bondedDenom + u.amount = Bank.queryBalance bank cfg.pool s.info.bondedDenom ∧
      ∀ x d, x ≠ cfg.pool → Bank.queryBalance bank1 x d = Bank.queryBalance bank x d +
        if d = s.info.bondedDenom then (if u.delegator = x then u.amount else 0) else 0 := by
  unfold payOne
  by_cases hz : u.amount = 0
  · exact ⟨bank, if_pos hz, hwf, by rw [hz, Nat.add_zero], fun x d _ => by rw [hz, ite_self, ite_self, Nat.add_zero]⟩
  · obtain ⟨bank1, hb1⟩ := BankFacts.send_single_succeeds bank cfg.pool u.delegator s.info.bondedDenom hz hcov
    have hq := BankFacts.queryBalance_send_single hwf hb1
    refine ⟨bank1, by rw [if_neg hz, hb1], BankFacts.WF_send hwf hb1, ?_, fun x d hx => ?_⟩
    · have := hq cfg.pool s.info.bondedDenom
      rwa [if_pos ⟨rfl, rfl⟩, if_neg (fun e => hnp e.1.symm)] at this
    have := hq x d
    rw [if_neg (fun e => hx e.1), Nat.add_zero] at this
    rw [this]
    by_cases e2 : d = s.info.bondedDenom
    · by_cases e1 : u.delegator = x
      · rw [if_pos e2, if_pos e1, if_pos ⟨e1.symm, e2⟩]
      · rw [if_pos e2, if_neg e1, if_neg (fun e => e1 e.1.symm)]
    · rw [if_neg e2, if_neg (fun e => e2 e.2)]

/-- what `process_queue` at `now` makes of a state that satisfies the invariant, `pre` being the entries it pays -/
structure QueueRun (cfg : Cfg) (now : Nat) (s : SState) (bank : Bank.State) (q : List Unbonding)
    (s' : SState) (bank' : Bank.State) (pre : List Unbonding) : Prop where
  sinv : SInv s'
  tinv : TInv s'
  last_le : LastLe s' now
  bank_wf : BankFacts.WF bank'
  covered : totalStake s'.vinfo + queueTotal s'.queue ≤ Bank.queryBalance bank' cfg.pool s'.info.bondedDenom
  info : s'.info = s.info
  validators : s'.validators = s.validators
  split : q = pre ++ s'.queue
  due : ∀ u ∈ pre, u.payoutAt ≤ now
  later : ∀ u ∈ s'.queue, now < u.payoutAt
  shown : ∀ d v, (stakeOf s' d v).floor = (stakeOf s d v).floor
  kept : ∀ d v sh, get? s.stakes (d, v) = some sh → 1 ≤ sh.stake.floor → get? s'.stakes (d, v) = some sh
  paid : ∀ x d, x ≠ cfg.pool → Bank.queryBalance bank' x d =
    Bank.queryBalance bank x d + (if d = s.info.bondedDenom then paidTo pre x else 0)

/-- where the loop stops: in front of a queue `q` with no entry due, having paid nothing -/
theorem QueueRun_stop {now : Nat} {s : SState} {bank : Bank.State} {q : List Unbonding}
    (hi : SInv s) (ht : TInv s) (hl : LastLe s now) (hwf : BankFacts.WF bank)
    (hcov : totalStake s.vinfo + queueTotal q ≤ Bank.queryBalance bank cfg.pool s.info.bondedDenom)
    (hlater : ∀ u ∈ q, now < u.payoutAt) : QueueRun cfg now s bank q { s with queue := q } bank [] :=
  ⟨hi.of_same_shape (fun _ => rfl) (fun _ => rfl) rfl, ht, hl, hwf, hcov, rfl, rfl, rfl,
    fun _ h => absurd h List.not_mem_nil, hlater, fun _ _ => rfl, fun _ _ _ h _ => h, by simp [paidTo]⟩

/-- where the loop pays a due head `u` and goes on: the run over the rest, started after the payment, with `u` in front of
what it paid (`hothers` is what `payOne_succeeds` says about the other accounts) -/
theorem QueueRun_pay {now : Nat} {s s' : SState} {bank bank1 bank' : Bank.State} {u : Unbonding}
    {rest pre : List Unbonding} (hi : SInv s) (hdue : u.payoutAt ≤ now)
    (hothers : ∀ x d, x ≠ cfg.pool → Bank.queryBalance bank1 x d = Bank.queryBalance bank x d +
        if d = s.info.bondedDenom then (if u.delegator = x then u.amount else 0) else 0)
    (r : QueueRun cfg now (dropIfEmpty s u rest) bank1 rest s' bank' pre) :
    QueueRun cfg now s bank (u :: rest) s' bank' (u :: pre) := by
  have de := dropIfEmpty_effect hi u rest
  refine ⟨r.sinv, r.tinv, r.last_le, r.bank_wf, r.covered, r.info.trans de.info, r.validators.trans de.validators,
    by rw [r.split]; rfl, fun x hx => ?_, r.later, fun d v => (r.shown d v).trans (de.shown d v),
    fun d v sh hsh hpos => r.kept d v sh (de.kept d v sh hsh hpos) hpos, fun x d hx => ?_⟩
  · rcases List.mem_cons.mp hx with rfl | hx
    · exact hdue
    · exact r.due x hx
  · rw [r.paid x d hx, hothers x d hx, de.info, paidTo_cons, Nat.add_assoc]
    by_cases e2 : d = s.info.bondedDenom
    · rw [if_pos e2, if_pos e2, if_pos e2]
    · rw [if_neg e2, if_neg e2, if_neg e2]

theorem processQueue_succeeds (now : Nat) {q : List Unbonding} {s : SState} {bank : Bank.State}
    (hi : SInv s) (ht : TInv s) (hl : LastLe s now) (hwf : BankFacts.WF bank)
    (hs : q.Pairwise (fun a b => a.payoutAt ≤ b.payoutAt)) (hnp : ∀ u ∈ q, u.delegator ≠ cfg.pool)
    (hcov : totalStake s.vinfo + queueTotal q ≤ Bank.queryBalance bank cfg.pool s.info.bondedDenom) :
    ∃ s' bank' pre, processQueue cfg now s bank q = .ok (s', bank') ∧ QueueRun cfg now s bank q s' bank' pre := by
  induction q generalizing s bank with
  | nil => exact ⟨_, bank, [], rfl, QueueRun_stop hi ht hl hwf hcov fun _ h => absurd h List.not_mem_nil⟩
  | cons u rest ih =>
    obtain ⟨hu, hs⟩ := List.pairwise_cons.mp hs
    unfold processQueue
    by_cases hdue : u.payoutAt ≤ now
    · rw [if_pos hdue]
      rw [queueTotal_cons] at hcov
      have de := dropIfEmpty_effect hi u rest
      obtain ⟨bank1, hpay, hwf1, hpool, hothers⟩ :=
        payOne_succeeds s rest hwf (hnp u List.mem_cons_self)
          (Nat.le_trans (Nat.le_trans (Nat.le_add_right _ _) (Nat.le_add_left _ _)) hcov)
      -- the pool paid `u.amount`, and the totals can only have shrunk
      rw [← hpool, ← Nat.add_assoc, Nat.add_right_comm] at hcov
      have hcov1 := Nat.le_trans (Nat.add_le_add_right de.total _) (Nat.le_of_add_le_add_right hcov)
      obtain ⟨s', bank', pre, h, r⟩ :=
        ih de.sinv (de.tinv ht) (de.lastle now hl) hwf1 hs
          (fun x hx => hnp x (List.mem_cons_of_mem _ hx)) (by rw [de.info]; exact hcov1)
      exact ⟨s', bank', u :: pre, by rw [hpay]; exact h, QueueRun_pay hi hdue hothers r⟩
    · rw [if_neg hdue]
      refine ⟨_, bank, [], rfl, QueueRun_stop hi ht hl hwf hcov fun x hx => ?_⟩
      -- the head is not due, and the queue is sorted
      rcases List.mem_cons.mp hx with rfl | hx
      · exact Nat.lt_of_not_le hdue
      · exact Nat.lt_of_lt_of_le (Nat.lt_of_not_le hdue) (hu x hx)

theorem advance_succeeds (dt : Nat) (hi : Inv cfg c) :
    ∃ c' pre, advance cfg c dt = .ok c' ∧ Inv cfg c' ∧ c'.time = c.time + dt ∧
      QueueRun cfg (c.time + dt) c.st c.bank c.st.queue c'.st c'.bank pre := by
  have hl : LastLe c.st (c.time + dt) := fun w vi hw => Nat.le_trans (hi.last_le w vi hw) (Nat.le_add_right _ _)
  obtain ⟨s', bank', pre, h, r⟩ :=
    processQueue_succeeds (cfg := cfg) (c.time + dt) hi.sinv hi.tinv hl hi.bank_wf hi.sorted hi.no_pool hi.covered
  refine ⟨{ st := s', bank := bank', time := c.time + dt, height := c.height + 1 }, pre, ?_, ?_, rfl, r⟩
  · unfold advance; rw [h]
  · have hs := hi.sorted
    rw [r.split, List.pairwise_append] at hs
    have hmem : ∀ u ∈ s'.queue, u ∈ c.st.queue := fun u hu => by rw [r.split]; exact List.mem_append_right _ hu
    refine ⟨r.sinv, hs.2.1, fun u hu => ?_, r.covered, r.last_le, fun u hu => hi.no_pool u (hmem u hu), r.bank_wf, r.tinv⟩
    show u.payoutAt ≤ c.time + dt + NS * s'.info.unbondingTime
    rw [r.info, Nat.add_right_comm]
    exact Nat.le_trans (hi.queue_bound u (hmem u hu)) (Nat.le_add_right _ _)

/-- no operation panics under the invariant: the only panic sites are the `expect`s of `update_rewards` and `slash`
(`SInv`) and the `unwrap` of the block update (`advance_succeeds`); everything else passes outcomes on -/
theorem run_safe (op : Op) (hi : Inv cfg c) : Safe (op.run cfg c) := by
  cases op with
  | delegate a v coin => exact delegate_safe cfg hi.sinv a v coin
  | undelegate a v coin => exact undelegate_safe hi.sinv a v coin
  | redelegate a v1 v2 coin => exact redelegate_safe hi.sinv a v1 v2 coin
  | withdraw a v => exact withdrawRewards_safe cfg hi.sinv a v
  | setWithdraw a b => exact setWithdraw_safe cfg c a b
  | slash v p => exact sudoSlash_safe hi.sinv v p
  | advance dt =>
    obtain ⟨c', _, h, _⟩ := advance_succeeds (cfg := cfg) dt hi
    show Safe (advance cfg c dt)
    rw [h]
    exact safe_ok c'

theorem Inv_run {op : Op} (hi : Inv cfg c) (hop : op.okFor cfg) (h : op.run cfg c = .ok c') : Inv cfg c' := by
  cases op with
  | delegate a v coin => exact Inv_delegate hi hop h
  | undelegate a v coin => exact Inv_undelegate hi hop h
  | redelegate a v1 v2 coin => exact Inv_redelegate hi h
  | withdraw a v => exact Inv_withdrawRewards hi h
  | setWithdraw a b => exact Inv_setWithdraw hi h
  | slash v p => exact Inv_sudoSlash hi h
  | advance dt =>
    obtain ⟨c2, _, h2, hi2, _⟩ := advance_succeeds (cfg := cfg) dt hi
    cases h2.symm.trans h
    exact hi2

theorem run_fixed {op : Op} (hi : Inv cfg c) (h : op.run cfg c = .ok c') :
    c'.st.validators = c.st.validators ∧ c'.st.info = c.st.info := by
  cases op with
  | delegate a w coin =>
    obtain ⟨_, _, st, bank, hst, _, rfl⟩ := delegate_ok h
    exact ⟨(updateStake_spec hst).validators, (updateStake_spec hst).info⟩
  | undelegate a w coin =>
    obtain ⟨_, _, st, hst, rfl⟩ := undelegate_ok_iff.mp h
    exact ⟨(updateStake_spec hst).validators, (updateStake_spec hst).info⟩
  | redelegate a w1 w2 coin =>
    obtain ⟨_, st1, st2, h1, h2, rfl⟩ := redelegate_ok h
    exact ⟨(updateStake_spec h2).validators.trans (updateStake_spec h1).validators,
      (updateStake_spec h2).info.trans (updateStake_spec h1).info⟩
  | withdraw a w =>
    obtain ⟨st, _, bank, hst, _, _, _, rfl⟩ := withdrawRewards_ok h
    exact ⟨(updateRewards_spec hst).validators, (updateRewards_spec hst).info⟩
  | setWithdraw a b => cases (setWithdraw_ok h).2; exact ⟨rfl, rfl⟩
  | slash w p =>
    obtain ⟨_, s1, vi1, st, h1, hv1, hst, rfl⟩ := sudoSlash_ok h
    have ur := updateRewards_spec h1
    obtain ⟨_, _, rfl, _⟩ := applySlash_ok (SInv_updateRewards hi.sinv ur) hv1 hst
    exact ⟨ur.validators, ur.info⟩
  | advance dt =>
    obtain ⟨c2, _, h2, _, _, r⟩ := advance_succeeds (cfg := cfg) dt hi
    cases h2.symm.trans h
    exact ⟨r.validators, r.info⟩

theorem Inv_step {op : Op} (hi : Inv cfg c) (hop : op.okFor cfg) : Inv cfg (step cfg c op).1 := by
  rcases run_cases cfg c op with ⟨c', h⟩ | h
  · rw [step_of_ok h]; exact Inv_run hi hop h
  · rw [(step_of_not_ok h).1]; exact hi

theorem step_rejected {op : Op} (hi : Inv cfg c) (h : ∀ c', op.run cfg c ≠ .ok c') : step cfg c op = (c, .err) := by
  obtain ⟨h1, _, h3⟩ := step_of_not_ok h
  exact Prod.ext h1 (h3 (run_safe op hi))

theorem step_no_panic (op : Op) (hi : Inv cfg c) : (step cfg c op).2 ≠ .panic := by
  rcases run_cases cfg c op with ⟨c', h⟩ | h
  · rw [step_of_ok h]; nofun
  · rw [step_rejected hi h]; nofun

theorem Inv_runAll (ops : List Op) (c : Chain) (hi : Inv cfg c) (hok : ∀ op ∈ ops, op.okFor cfg) :
    Inv cfg (runAll cfg c ops).1 ∧ ∀ r ∈ (runAll cfg c ops).2, r ≠ .panic := by
  induction ops generalizing c with
  | nil => exact ⟨hi, by simp [runAll]⟩
  | cons op ops ih =>
    have h2 := ih (step cfg c op).1 (Inv_step hi (hok op List.mem_cons_self)) fun o ho => hok o (List.mem_cons_of_mem _ ho)
    simp only [runAll]
    refine ⟨h2.1, fun r hr => ?_⟩
    rcases List.mem_cons.mp hr with rfl | hr
    · exact step_no_panic op hi
    · exact h2.2 r hr

theorem get?_fresh_vinfo (vals : List Validator) (t : Nat) (w : String) (vi : ValInfo)
    (h : get? (vals.map (fun v => (v.address, ValInfo.new t))) w = some vi) : vi = ValInfo.new t := by
  induction vals with
  | nil => simp at h
  | cons x xs ih =>
    simp only [List.map_cons, get?_cons] at h
    split at h
    · simp only [Option.some.injEq] at h; exact h.symm
    · exact ih h

theorem totalStake_fresh (vals : List Validator) (t : Nat) :
    totalStake (vals.map (fun v => (v.address, ValInfo.new t))) = 0 := by
  refine List.sum_eq_zero_iff_forall_eq_nat.mpr fun x hx => ?_
  obtain ⟨p, hp, rfl⟩ := List.mem_map.mp hx
  obtain ⟨vo, _, rfl⟩ := List.mem_map.mp hp
  rfl

theorem Inv_freshChain (cfg : Cfg) (info : StakingInfo) (vals : List Validator) (bank : Bank.State) (t h : Nat)
    (hc : ∀ vo ∈ vals, vo.commission.atomics ≤ Dec.ONE) (hwf : BankFacts.WF bank) :
    Inv cfg (freshChain info vals bank t h) := by
  refine ⟨⟨?_, ?_, hc⟩, List.Pairwise.nil, by simp [freshChain], ?_, ?_, by simp [freshChain], hwf,
    fun w vi _ => by simp [freshChain, shareSum_nil]⟩
  · intro v vi d hv hd
    have := get?_fresh_vinfo vals t v vi hv
    subst this; simp [ValInfo.new] at hd
  · intro d v sh hs; simp [freshChain] at hs
  · simp [freshChain, totalStake_fresh, queueTotal]
  · intro w vi hv
    have := get?_fresh_vinfo vals t w vi hv
    subst this; simp [ValInfo.new, freshChain]

theorem inv_init (cfg : Cfg) : Inv cfg ⟨SState.init, [], 0, 0⟩ :=
  Inv_freshChain cfg StakingInfo.dflt [] [] 0 0 nofun BankFacts.WF_nil

end Staking
end CwMt
