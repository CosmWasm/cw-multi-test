import CwMt.Model.Engine
/-
  CwMt.Proofs.Rules — the one definition that links the engine model's `ReplyOn` (`CwMt/Model/Engine.lean`) with the reply rule
  read from the sources, a table of strings (`CwMt/Model/Rules.lean`, which knows nothing of the engine, and `Gen/Rules.lean`,
  which imports only that). The statements of `CwMt/Props/C03.lean` compare the two through it; there is no lemma about it.
-/
namespace CwMt.Rules
open CwMt

/-- how the Rust sources spell the four modes -/
def modeName : ReplyOn → String
  | .always => "Always" | .error => "Error" | .success => "Success" | .never => "Never"

end CwMt.Rules
