import CwMt.Proofs.Engine
import CwMt.Proofs.EngineTx
import CwMt.Model.TxSite
import CwMt.Gen.TxSites
import CwMt.Proofs.EngineBig
/-
  C02 — A failed sub-message leaves no trace; caught only if reply_on says so.
  Model: `executeSubmsg`, `processResponse`, `reply` of CwMt/Model/Engine.lean. All statements hold
  for arbitrary depth below the sub-message: `execute` stands for the complete (recursive) execution
  of the sub-message, whatever it dispatched and however far it got before failing.
-/
namespace CwMt.C02
open CwMt
variable {E : Type}

/-- A failed sub-message: everything after it (its reply handler, hence later siblings and the
parent's caller) continues from `ch`, the state just before it was dispatched — whatever the failed
sub-tree wrote is gone. It is absorbed exactly when the mode is `error`/`always`. -/
theorem failed_sub_discarded (cfg : Config E) (blk : Block) (fuel : Nat) (ch : Chain E) (contract : Addr)
    (sm : SubMsg) (tr tr₁ : Trace)
    (h : execute cfg blk fuel ch contract sm.msg tr = (.err, tr₁)) :
    executeSubmsg cfg blk (fuel + 1) ch contract sm tr =
      (if wantsReplyOnErr sm.replyOn then reply cfg blk fuel ch contract ⟨sm.id, sm.payload, .err⟩ tr₁
       else (.err, tr₁)) := by
  rw [Engine.executeSubmsg_succ, h]

/-- The parent continues past a failed sub-message iff reply_on ∈ {error, always} and the reply
(including everything it dispatches) succeeds. -/
theorem caught_iff (cfg : Config E) (blk : Block) (fuel : Nat) (ch : Chain E) (contract : Addr)
    (sm : SubMsg) (tr tr₁ : Trace)
    (h : execute cfg blk fuel ch contract sm.msg tr = (.err, tr₁)) :
    (executeSubmsg cfg blk (fuel + 1) ch contract sm tr).1.isOk = true ↔
      (wantsReplyOnErr sm.replyOn = true ∧
        (reply cfg blk fuel ch contract ⟨sm.id, sm.payload, .err⟩ tr₁).1.isOk = true) := by
  rw [failed_sub_discarded cfg blk fuel ch contract sm tr tr₁ h]
  by_cases hw : wantsReplyOnErr sm.replyOn = true
  · rw [if_pos hw]; exact ⟨fun h => ⟨hw, h⟩, And.right⟩
  · rw [if_neg hw]; exact ⟨nofun, fun h => absurd h.1 hw⟩

/-- A successful sub-message: its state `ch₁` is what the reply handler / the next sibling sees. -/
theorem ok_sub_visible (cfg : Config E) (blk : Block) (fuel : Nat) (ch ch₁ : Chain E) (contract : Addr)
    (sm : SubMsg) (tr tr₁ : Trace) (r : AppResponse)
    (h : execute cfg blk fuel ch contract sm.msg tr = (.ok (r, ch₁), tr₁)) :
    executeSubmsg cfg blk (fuel + 1) ch contract sm tr =
      (if wantsReplyOnOk sm.replyOn then
        (match reply cfg blk fuel ch₁ contract ⟨sm.id, sm.payload, .ok r.events r.data⟩ tr₁ with
         | (.ok (rr, ch₂), tr₂) => (.ok ({ events := r.events ++ rr.events, data := rr.data }, ch₂), tr₂)
         | other => other)
       else (.ok ({ r with data := none }, ch₁), tr₁)) := by
  rw [Engine.executeSubmsg_succ, h]
  rfl

/-- A successful sub-message whose wanted reply fails makes the parent fail. -/
theorem reply_failure_propagates (cfg : Config E) (blk : Block) (fuel : Nat) (ch ch₁ : Chain E)
    (contract : Addr) (sm : SubMsg) (tr tr₁ tr₂ : Trace) (r : AppResponse)
    (h : execute cfg blk fuel ch contract sm.msg tr = (.ok (r, ch₁), tr₁))
    (hw : wantsReplyOnOk sm.replyOn = true)
    (hr : reply cfg blk fuel ch₁ contract ⟨sm.id, sm.payload, .ok r.events r.data⟩ tr₁ = (.err, tr₂)) :
    executeSubmsg cfg blk (fuel + 1) ch contract sm tr = (.err, tr₂) := by
  rw [ok_sub_visible cfg blk fuel ch ch₁ contract sm tr tr₁ r h, if_pos hw, hr]

/-- Siblings run in list order, each on the state its predecessor left; the parent's own writes and
the effects of completed siblings are in that state (`ch` here already contains them). -/
theorem siblings_in_order (cfg : Config E) (blk : Block) (fuel : Nat) (ch : Chain E) (contract : Addr)
    (resp : AppResponse) (sm : SubMsg) (rest : List SubMsg) (tr : Trace) :
    processResponse cfg blk (fuel + 1) ch contract resp (sm :: rest) tr =
      (match executeSubmsg cfg blk fuel ch contract sm tr with
       | (.ok (sr, ch₁), tr₁) =>
         processResponse cfg blk fuel ch₁ contract
           { events := resp.events ++ sr.events, data := sr.data.orElse fun _ => resp.data } rest tr₁
       | other => other) :=
  Engine.processResponse_succ_cons cfg blk fuel ch contract resp sm rest tr

/-- An uncaught failure of any sub-message fails the parent as a whole. -/
theorem uncaught_propagates (cfg : Config E) (blk : Block) (fuel : Nat) (ch : Chain E) (contract : Addr)
    (resp : AppResponse) (sm : SubMsg) (rest : List SubMsg) (tr tr₁ : Trace)
    (h : executeSubmsg cfg blk fuel ch contract sm tr = (.err, tr₁)) :
    processResponse cfg blk (fuel + 1) ch contract resp (sm :: rest) tr = (.err, tr₁) := by
  rw [Engine.processResponse_succ_cons, h]

/-! ### "leaves no trace": what failed, and how far it got, is invisible to everything that follows -/

/-- The ghost invocation trace is a pure observer: the outcome and the resulting state of an execution
do not depend on the trace handed in, and the entries appended are the same. -/
theorem trace_is_observer (cfg : Config E) (blk : Block) (fuel : Nat) (ch : Chain E) (sender : Addr) (m : Msg)
    (tr₁ tr₂ : Trace) :
    (execute cfg blk fuel ch sender m tr₁).1 = (execute cfg blk fuel ch sender m tr₂).1 ∧
    ∃ new, (execute cfg blk fuel ch sender m tr₁).2 = tr₁ ++ new ∧
           (execute cfg blk fuel ch sender m tr₂).2 = tr₂ ++ new :=
  (EngineInv.Runs_execute (EngineInv.trivInv cfg blk) fuel ch sender m).observer tr₁ tr₂

/-- Two sub-messages with the same id, payload and reply mode that both fail — whatever they are,
however deep they went and whatever they wrote before failing — leave the parent in exactly the
same situation: same outcome, same state, same response. -/
theorem failed_subs_indistinguishable (cfg : Config E) (blk : Block) (fuel : Nat) (ch : Chain E) (contract : Addr)
    (sm sm' : SubMsg) (tr tr₁ tr₁' : Trace)
    (hid : sm'.id = sm.id) (hp : sm'.payload = sm.payload) (hr : sm'.replyOn = sm.replyOn)
    (h : execute cfg blk fuel ch contract sm.msg tr = (.err, tr₁))
    (h' : execute cfg blk fuel ch contract sm'.msg tr = (.err, tr₁')) :
    (executeSubmsg cfg blk (fuel + 1) ch contract sm tr).1 =
      (executeSubmsg cfg blk (fuel + 1) ch contract sm' tr).1 := by
  rw [failed_sub_discarded cfg blk fuel ch contract sm tr tr₁ h,
    failed_sub_discarded cfg blk fuel ch contract sm' tr tr₁' h', hid, hp, hr]
  cases wantsReplyOnErr sm.replyOn with
  | true =>
    exact ((EngineInv.Runs_reply (EngineInv.trivInv cfg blk) fuel ch contract ⟨sm.id, sm.payload, .err⟩).observer
      tr₁ tr₁').1
  | false => rfl

/-! ### the same facts for the engine with in-place writes (`CwMt/Model/EngineTx.lean`) -/

/-- Every function of the imperative engine, at every depth, agrees with its value-semantics twin on
outcome, trace and — when it succeeds — state; what a failing one leaves in its storage never matters
to anything above the nearest `transactional`. -/
theorem imperative_refines (cfg : Config E) (d : Dirt E) (blk : Block) (fuel : Nat) (ch : Chain E) (tr : Trace) :
    (∀ sender m, (executeI cfg d blk fuel ch sender m tr).forget = execute cfg blk fuel ch sender m tr) ∧
    (∀ c resp msgs, (processResponseI cfg d blk fuel ch c resp msgs tr).forget
        = processResponse cfg blk fuel ch c resp msgs tr) ∧
    (∀ c sm, (executeSubmsgI cfg d blk fuel ch c sm tr).forget = executeSubmsg cfg blk fuel ch c sm tr) ∧
    (∀ c rp, (replyI cfg d blk fuel ch c rp tr).forget = reply cfg blk fuel ch c rp tr) := by
  have h := EngineTx.refAt cfg d blk fuel
  exact ⟨fun s m => h.execute ch s m tr, fun c r l => h.processResponse ch c r l tr,
    fun c sm => h.executeSubmsg ch c sm tr, fun c rp => h.reply ch c rp tr⟩

/-- A sub-message that fails after writing — `chDirty` is what its cache showed when it gave up, at
whatever depth — is followed by a reply handler (or an error return) that sees exactly `ch`, the
dispatcher's storage as it was when the sub-message was dispatched. -/
theorem imperative_failed_sub_discarded (cfg : Config E) (d : Dirt E) (blk : Block) (fuel : Nat) (ch chDirty : Chain E)
    (contract : Addr) (sm : SubMsg) (tr tr₁ : Trace)
    (h : executeI cfg d blk fuel ch contract sm.msg tr = (.err, chDirty, tr₁)) :
    executeSubmsgI cfg d blk (fuel + 1) ch contract sm tr =
      (if wantsReplyOnErr sm.replyOn then replyI cfg d blk fuel ch contract ⟨sm.id, sm.payload, .err⟩ tr₁
       else (.err, ch, tr₁)) := by
  rw [EngineTx.executeSubmsgI_succ, h]
  rfl

/-- A sub-message that succeeds is committed into the dispatcher's storage, and stays there even if
the dispatcher's reply handler then fails: the failure travels upwards with that state, to be dropped by
the next enclosing `transactional` (an outer sub-message, or the entry point). -/
theorem imperative_committed_then_reply_fails (cfg : Config E) (d : Dirt E) (blk : Block) (fuel : Nat)
    (ch ch₁ ch₂ : Chain E) (contract : Addr) (sm : SubMsg) (tr tr₁ tr₂ : Trace) (r : AppResponse)
    (h : executeI cfg d blk fuel ch contract sm.msg tr = (.ok r, ch₁, tr₁))
    (hw : wantsReplyOnOk sm.replyOn = true)
    (hr : replyI cfg d blk fuel ch₁ contract ⟨sm.id, sm.payload, .ok r.events r.data⟩ tr₁ = (.err, ch₂, tr₂)) :
    executeSubmsgI cfg d blk (fuel + 1) ch contract sm tr = (.err, ch₂, tr₂) := by
  rw [EngineTx.executeSubmsgI_succ, h]
  show (if wantsReplyOnOk sm.replyOn = true then _ else _) = _
  rw [if_pos hw, hr]

/-- Tie to the sources (regenerated on every run by checklib/tr_tx.py): non-test code of app.rs / wasm.rs
creates write caches at exactly the places where `CwMt/Model/EngineTx.lean` has `transactionalI` — the three
entry points, once around every sub-message (with both `reply` calls outside, on the dispatcher's storage)
and once around every contract call (the querier reading the storage beneath). -/
theorem tx_sites_as_modelled : Gen.Tx.sites = expectedTxSites :=
  rfl

/-! ### final-state specification: fuel-free, trace-free judgements and their compositional rules

`Exec / Proc / Sub / Rep cfg blk … o` (CwMt/Model/EngineBig.lean): "this run terminates with outcome `o`". The
rules below characterise them for message trees of arbitrary depth; each is an `iff`, so they can be read in both
directions (what a given tree does, and what must have happened for a given outcome). In particular case (2) of
`sub_rule` is the property's first sentence: after a failed sub-message the reply — and through `proc_cons` every
later sibling — runs on `ch`, the state from before it. -/

/-- the judgements are functional: a run has one outcome -/
theorem exec_deterministic (cfg : Config E) (blk : Block) (ch : Chain E) (s : Addr) (m : Msg) (o₁ o₂ : Out E)
    (h₁ : Exec cfg blk ch s m o₁) (h₂ : Exec cfg blk ch s m o₂) : o₁ = o₂ :=
  EngineBig.Ev.det (EngineBig.execO_mono cfg blk ch s m) h₁ h₂

theorem sub_deterministic (cfg : Config E) (blk : Block) (ch : Chain E) (c : Addr) (sm : SubMsg) (o₁ o₂ : Out E)
    (h₁ : Sub cfg blk ch c sm o₁) (h₂ : Sub cfg blk ch c sm o₂) : o₁ = o₂ :=
  EngineBig.Ev.det (EngineBig.subO_mono cfg blk ch c sm) h₁ h₂

/-- the judgement does not depend on the ghost trace the run starts with -/
theorem exec_any_trace (cfg : Config E) (blk : Block) (ch : Chain E) (s : Addr) (m : Msg) (o : Out E) (tr : Trace) :
    Exec cfg blk ch s m o ↔ (o ≠ .outOfFuel ∧ ∃ fuel, (execute cfg blk fuel ch s m tr).1 = o) :=
  EngineBig.ev_congr (g := EngineBig.execO cfg blk ch s m) fun n => (EngineBig.execute_fst cfg blk n ch s m tr).symm

/-- no sub-messages left: the accumulated response and the current state -/
theorem proc_nil (cfg : Config E) (blk : Block) (ch : Chain E) (c : Addr) (resp : AppResponse) (o : Out E) :
    Proc cfg blk ch c resp [] o ↔ o = .ok (resp, ch) :=
  EngineBig.proc_nil cfg blk ch c resp o

/-- siblings: the first sub-message (with its reply) runs on `ch`; if it ends `ok` with state `ch₁`, the rest runs
on `ch₁` with its events appended and its data (if any) replacing the data so far; otherwise its outcome is the
outcome of the whole list -/
theorem proc_cons (cfg : Config E) (blk : Block) (ch : Chain E) (c : Addr) (resp : AppResponse) (sm : SubMsg)
    (rest : List SubMsg) (o : Out E) :
    Proc cfg blk ch c resp (sm :: rest) o ↔
      ∃ o₁, Sub cfg blk ch c sm o₁ ∧
        (match o₁ with
         | .ok (sr, ch₁) =>
           Proc cfg blk ch₁ c { events := resp.events ++ sr.events, data := sr.data.orElse fun _ => resp.data } rest o
         | other => o = other) :=
  EngineBig.proc_cons cfg blk ch c resp sm rest o

/-- one sub-message: (1) it succeeded with `r`, state `ch₁`: the reply (if wanted) runs on `ch₁` and decides; without
a reply its data is dropped; (2) it failed: the reply (if wanted) runs on `ch` — the state before the sub-message —
and decides, otherwise the failure is the outcome; (3) it panicked. -/
theorem sub_rule (cfg : Config E) (blk : Block) (ch : Chain E) (c : Addr) (sm : SubMsg) (o : Out E) :
    Sub cfg blk ch c sm o ↔
      ((∃ r ch₁, Exec cfg blk ch c sm.msg (.ok (r, ch₁)) ∧
          ((wantsReplyOnOk sm.replyOn = true ∧
              ∃ o', Rep cfg blk ch₁ c ⟨sm.id, sm.payload, .ok r.events r.data⟩ o' ∧ o = mergeReply r o') ∨
           (wantsReplyOnOk sm.replyOn = false ∧ o = .ok ({ r with data := none }, ch₁)))) ∨
       (Exec cfg blk ch c sm.msg .err ∧
          ((wantsReplyOnErr sm.replyOn = true ∧ Rep cfg blk ch c ⟨sm.id, sm.payload, .err⟩ o) ∨
           (wantsReplyOnErr sm.replyOn = false ∧ o = .err))) ∨
       (Exec cfg blk ch c sm.msg .panic ∧ o = .panic)) :=
  EngineBig.sub_rule cfg blk ch c sm o

/-- the reply handler: the contract call on `ch`, then its own sub-messages -/
theorem rep_rule (cfg : Config E) (blk : Block) (ch : Chain E) (c : Addr) (rp : Reply) (o : Out E) :
    Rep cfg blk ch c rp o ↔
      (match (callContract cfg blk ch c (.reply rp) []).1 with
       | .ok (resp, ch₁) =>
         Proc cfg blk ch₁ c (buildAppResponse c (replyEvent c rp) resp).1 (buildAppResponse c (replyEvent c rp) resp).2 o
       | .err => o = .err
       | .panic => o = .panic
       | .outOfFuel => False) :=
  EngineBig.rep_rule cfg blk ch c rp o

/-- `WasmMsg::Execute`: funds first, then the contract on the state with the funds moved, then its sub-messages;
the data of the final response is wrapped in the execute-response encoding -/
theorem exec_wasm_execute (cfg : Config E) (blk : Block) (ch : Chain E) (s : Addr) (contract : String) (m : Val)
    (funds : Coins) (o : Out E) :
    Exec cfg blk ch s (.wasmExecute contract m funds) o ↔
      (if cfg.validAddr contract = false then o = .err else
       match sendFunds ch s contract funds with
       | .ok ch₁ =>
         (match (callContract cfg blk ch₁ contract (.execute ⟨s, funds⟩ m) []).1 with
          | .ok (resp, ch₂) =>
            ∃ o', Proc cfg blk ch₂ contract
                (buildAppResponse contract { ty := "execute", attrs := [contractAttr contract] } resp).1
                (buildAppResponse contract { ty := "execute", attrs := [contractAttr contract] } resp).2 o' ∧
              o = (match o' with
                   | .ok (r, ch₃) => .ok ({ r with data := r.data.map encodeExecuteResponse }, ch₃)
                   | other => other)
          | .err => o = .err
          | .panic => o = .panic
          | .outOfFuel => False)
       | .err => o = .err
       | .panic => o = .panic
       | .outOfFuel => False) :=
  EngineBig.exec_wasm_execute cfg blk ch s contract m funds o

/-- bank messages, admin changes and module messages do not recurse: their outcome is the module's -/
theorem exec_bank (cfg : Config E) (blk : Block) (ch : Chain E) (s : Addr) (to : String) (amount : Coins) (o : Out E) :
    Exec cfg blk ch s (.bankSend to amount) o ↔ (o = bankExecute ch s (.bankSend to amount) ∧ o ≠ .outOfFuel) :=
  EngineBig.exec_bank cfg blk ch s to amount o

/-- `WasmMsg::Instantiate(2)`: register, move the funds to the new address, run `instantiate` there, then its
sub-messages; the data is always the instantiate-response encoding of the new address and the final data -/
theorem exec_wasm_instantiate (cfg : Config E) (blk : Block) (ch : Chain E) (s : Addr) (admin : Option String)
    (codeId : Nat) (m : Val) (funds : Coins) (label : String) (salt : Option Val) (o : Out E) :
    Exec cfg blk ch s (.wasmInstantiate admin codeId m funds label salt) o ↔
      (if label.isEmpty = true then o = .err else
       match registerContract cfg ch codeId s admin label blk.height salt with
       | .ok (addr, ch₀) =>
         (match sendFunds ch₀ s addr funds with
          | .ok ch₁ =>
            (match (callContract cfg blk ch₁ addr (.instantiate ⟨s, funds⟩ m) []).1 with
             | .ok (resp, ch₂) =>
               ∃ o', Proc cfg blk ch₂ addr
                   (buildAppResponse addr { ty := "instantiate", attrs := [contractAttr addr, ⟨"code_id", toString codeId⟩] } resp).1
                   (buildAppResponse addr { ty := "instantiate", attrs := [contractAttr addr, ⟨"code_id", toString codeId⟩] } resp).2 o' ∧
                 o = (match o' with
                      | .ok (r, ch₃) => .ok ({ r with data := some (encodeInstantiateResponse addr (r.data.getD [])) }, ch₃)
                      | other => other)
             | .err => o = .err
             | .panic => o = .panic
             | .outOfFuel => False)
          | .err => o = .err
          | .panic => o = .panic
          | .outOfFuel => False)
       | .err => o = .err
       | .panic => o = .panic
       | .outOfFuel => False) :=
  EngineBig.exec_wasm_instantiate cfg blk ch s admin codeId m funds label salt o

/-- `WasmMsg::Migrate`: checks, then the new code id is recorded, then `migrate` of the NEW code runs on that state,
then its sub-messages; data wrapped as for execute -/
theorem exec_wasm_migrate (cfg : Config E) (blk : Block) (ch : Chain E) (s : Addr) (contract : String) (newCodeId : Nat)
    (m : Val) (o : Out E) :
    Exec cfg blk ch s (.wasmMigrate contract newCodeId m) o ↔
      (if cfg.validAddr contract = false then o = .err else
       if codeKnown cfg newCodeId = false then o = .err else
       match ch.contracts.get? contract with
       | none => o = .err
       | some cd =>
         if cd.admin ≠ some s then o = .err else
         match (callContract cfg blk { ch with contracts := ch.contracts.set contract { cd with codeId := newCodeId } }
                  contract (.migrate m) []).1 with
         | .ok (resp, ch₂) =>
           ∃ o', Proc cfg blk ch₂ contract
               (buildAppResponse contract { ty := "migrate", attrs := [contractAttr contract, ⟨"code_id", toString newCodeId⟩] } resp).1
               (buildAppResponse contract { ty := "migrate", attrs := [contractAttr contract, ⟨"code_id", toString newCodeId⟩] } resp).2 o' ∧
             o = (match o' with
                  | .ok (r, ch₃) => .ok ({ r with data := r.data.map encodeExecuteResponse }, ch₃)
                  | other => other)
         | .err => o = .err
         | .panic => o = .panic
         | .outOfFuel => False) :=
  EngineBig.exec_wasm_migrate cfg blk ch s contract newCodeId m o

/-- the entry point `App::execute_multi` in terms of the judgement: it persists exactly the state of a terminating
successful run of all messages and nothing otherwise (given enough fuel) -/
theorem app_execute_single (cfg : Config E) (blk : Block) (fuel : Nat) (ch : Chain E) (s : Addr) (m : Msg)
    (r : AppResponse) (ch' : Chain E) (tr : Trace)
    (h : App.execute cfg blk fuel ch s m = (.ok r, ch', tr)) : Exec cfg blk ch s m (.ok (r, ch')) :=
  EngineBig.app_execute_single cfg blk fuel ch s m r ch' tr h

end CwMt.C02
