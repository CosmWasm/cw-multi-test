import CwMt.Proofs.EngineOrder
import CwMt.Proofs.Rules
import CwMt.Gen.Rules
/-
  C03 — reply is invoked exactly when, and with exactly what, the sub-message dictates.
  Stated against the ghost invocation trace (one entry per contract entry-point invocation, in
  execution order, kept also for rolled-back branches).
-/
namespace CwMt.C03
open CwMt
variable {E : Type}

/-- A contract call appends exactly one trace entry, for the called address and the given entry
point, when contract and code exist — and none otherwise. -/
theorem call_trace (cfg : Config E) (blk : Block) (ch : Chain E) (addr : Addr) (en : Entry) (tr : Trace) :
    (∃ note, (callContract cfg blk ch addr en tr).2 = tr ++ [⟨addr, en, contractEnv blk addr, note⟩]) ∨
    ((callContract cfg blk ch addr en tr).2 = tr ∧ (callContract cfg blk ch addr en tr).1 = .err) := by
  rcases Engine.callContract_cases cfg blk ch addr en with ⟨_, h1⟩ | ⟨_, note, o, h1, _⟩
  · right; rw [h1]; exact ⟨rfl, rfl⟩
  · left; exact ⟨note, by rw [h1]⟩

/-- The trace only grows (all four engine functions). -/
theorem trace_grows (cfg : Config E) (blk : Block) (fuel : Nat) (ch : Chain E) (sender : Addr) (m : Msg)
    (tr : Trace) : ∃ new, (execute cfg blk fuel ch sender m tr).2 = tr ++ new :=
  Engine.trace_grows_execute cfg blk fuel ch sender m tr

/-- No reply unless the outcome/mode pair demands one: the trace of the sub-message execution is all
there is. -/
theorem no_reply_unless_wanted (cfg : Config E) (blk : Block) (fuel : Nat) (ch : Chain E) (contract : Addr)
    (sm : SubMsg) (tr : Trace)
    (h : replyWanted (execute cfg blk fuel ch contract sm.msg tr).1 sm.replyOn = false) :
    (executeSubmsg cfg blk (fuel + 1) ch contract sm tr).2 = (execute cfg blk fuel ch contract sm.msg tr).2 := by
  rw [EngineOrder.executeSubmsg_trace, h]
  rfl

/-- When the pair demands one (and the dispatching contract and its code exist in the state the
reply runs on, and fuel remains): right after the complete sub-message execution the trace continues
with exactly one `reply` invocation on the dispatching contract, carrying the sub-message's id and
payload unchanged and a result that is `ok` with exactly the sub-message's own events and data, or
`err`. -/
theorem reply_when_wanted (cfg : Config E) (blk : Block) (fuel : Nat) (ch : Chain E) (contract : Addr)
    (sm : SubMsg) (tr tr₁ : Trace) (r₁ : Outcome (AppResponse × Chain E)) (cd : ContractData) (code : Code E)
    (h : execute cfg blk (fuel + 1) ch contract sm.msg tr = (r₁, tr₁))
    (hw : replyWanted r₁ sm.replyOn = true)
    (hc : (replyState ch r₁).contracts.get? contract = some cd)
    (hcode : contractCode? cfg cd.codeId = some code) :
    ∃ note rest,
      (executeSubmsg cfg blk (fuel + 2) ch contract sm tr).2 =
        tr₁ ++ [⟨contract, .reply ⟨sm.id, sm.payload, subResultOf r₁⟩, contractEnv blk contract, note⟩] ++ rest := by
  rw [EngineOrder.executeSubmsg_trace, h, if_pos hw, Engine.reply_succ]
  rcases EngineOrder.callThen_trace cfg blk fuel (replyState ch r₁) contract
    (.reply ⟨sm.id, sm.payload, subResultOf r₁⟩) _ tr₁ with ⟨hk, _⟩ | ⟨_, h⟩
  · exact absurd ⟨cd, code, hc, hcode⟩ hk
  · exact h

/-! ### order of whole executions: depth-first, siblings in list order, reply between a sub-message and its successor -/

/-- Processing `sm :: rest` for the dispatching contract: the trace is, in this order and with nothing in
between, (1) everything the sub-message `sm` ran, to any depth (`tSub`: exactly the trace of executing
`sm.msg` as a message of the dispatcher), (2) everything its reply ran (`tReply`: empty, or starting with a
`reply` invocation **on the dispatcher** that carries `sm.id` and `sm.payload`, followed by the reply's own
sub-tree), (3) everything the remaining siblings ran (`tRest`) — and the remaining siblings run at all only
if the sub-message together with its reply succeeded. -/
theorem depth_first_order (cfg : Config E) (blk : Block) (fuel : Nat) (ch : Chain E) (contract : Addr)
    (resp : AppResponse) (sm : SubMsg) (rest : List SubMsg) (tr : Trace) :
    ∃ tSub tReply tRest : Trace,
      (execute cfg blk fuel ch contract sm.msg tr).2 = tr ++ tSub ∧
      (executeSubmsg cfg blk (fuel + 1) ch contract sm tr).2 = tr ++ tSub ++ tReply ∧
      (processResponse cfg blk (fuel + 2) ch contract resp (sm :: rest) tr).2 = tr ++ tSub ++ tReply ++ tRest ∧
      (∀ e, tReply.head? = some e → e.callee = contract ∧ ∃ res, e.entry = .reply ⟨sm.id, sm.payload, res⟩) ∧
      (tRest ≠ [] → (executeSubmsg cfg blk (fuel + 1) ch contract sm tr).1.isOk = true) :=
  EngineOrder.depth_first_order cfg blk fuel ch contract resp sm rest tr

/-- A `reply` invocation at the head of `tReply` exists exactly when the outcome/mode pair demands one and the
dispatcher (with its code) exists in the state the reply runs on; so per sub-message the dispatcher's reply
entry point is entered at most once at this position, and never when not wanted. -/
theorem reply_segment_empty_iff (cfg : Config E) (blk : Block) (fuel : Nat) (ch : Chain E) (contract : Addr)
    (sm : SubMsg) (tr : Trace) :
    ((executeSubmsg cfg blk (fuel + 2) ch contract sm tr).2 = (execute cfg blk (fuel + 1) ch contract sm.msg tr).2) ↔
      ¬ (replyWanted (execute cfg blk (fuel + 1) ch contract sm.msg tr).1 sm.replyOn = true ∧
         ∃ cd code, (replyState ch (execute cfg blk (fuel + 1) ch contract sm.msg tr).1).contracts.get? contract = some cd ∧
           contractCode? cfg cd.codeId = some code) :=
  EngineOrder.reply_segment_empty_iff cfg blk fuel ch contract sm tr

/-- The contract's own entry point runs before anything it dispatched: executing `WasmMsg::Execute` appends
the `execute` invocation first (if the contract exists), then the trace of processing its sub-messages. -/
theorem body_before_submessages (cfg : Config E) (blk : Block) (fuel : Nat) (ch : Chain E) (sender : Addr)
    (c : String) (m : Val) (funds : Coins) (tr : Trace) :
    (execute cfg blk (fuel + 1) ch sender (.wasmExecute c m funds) tr).2 = tr ∨
    ∃ note rest, (execute cfg blk (fuel + 1) ch sender (.wasmExecute c m funds) tr).2 =
      tr ++ [⟨c, .execute ⟨sender, funds⟩ m, contractEnv blk c, note⟩] ++ rest :=
  EngineOrder.body_before_submessages cfg blk fuel ch sender c m funds tr

/-! ### exactly once, over a whole list of sub-messages -/

/-- Processing the sub-message list `sms` of a response of `c` appends to the trace exactly `flatSegs segs`, where `segs` holds one
segment pair per STARTED sub-message — a prefix of `sms` in list order, all of `sms` when processing succeeded (`Walk`: each next
sub-message starts only after its predecessor together with its reply succeeded, on the state that left). For every segment
(`SegFacts`): `tSub` is exactly the trace of executing that sub-message's message as a message of `c`, to any depth; `tReply` is
empty or starts with ONE `reply` invocation on `c` carrying the sub-message's id, payload and own outcome (`subResultOf`), followed
only by what that reply's response processing ran; and (`once`, given fuel) `tReply` is empty exactly when the outcome/mode pair
does not demand a reply or the dispatcher no longer exists. So at this level `reply` is entered exactly once per sub-message
that demands it and never otherwise, between that sub-message and its successor; the levels below are the same statement for the
`processResponse` calls inside `tSub` and `tReply`. -/
theorem siblings_exactly_once (cfg : Config E) (blk : Block) (c : Addr) (sms : List SubMsg) (n : Nat) (ch : Chain E)
    (resp : AppResponse) (tr : Trace) :
    ∃ segs : List EngineOrder.SubSeg,
      EngineOrder.Walk cfg blk c n ch sms tr segs ∧
      (processResponse cfg blk n ch c resp sms tr).2 = tr ++ EngineOrder.flatSegs segs ∧
      ((processResponse cfg blk n ch c resp sms tr).1.isOk = true → segs.map (·.sm) = sms) :=
  EngineOrder.siblings_walk cfg blk c sms n ch resp tr

/-! ### tie T: the reply rule of the current sources (`execute_submsg`, re-read on every run by checklib/tr_rules.py) -/

/-- The table regenerated from /repo/src/wasm.rs — per arm of the sub-message result: the `reply_on` variants for which
`reply` is called, the `Reply { id, payload, gas_used: 0, result }` literal (for `Ok`: the sub-message's own events and
data), the reply's data replacing and its events extending the sub-message's response, data dropped when no reply is
called, the error propagating when none is wanted — is the rule `executeSubmsg` transcribes. -/
theorem reply_rule_as_modelled : Gen.Rules.replyArms = expectedReplyArms :=
  rfl

/-- For every mode: the model's "reply after success" is membership in the variant set the sources list in the `Ok` arm. -/
theorem reply_on_success_is_source_rule (m : ReplyOn) :
    wantsReplyOnOk m = (replyModes Gen.Rules.replyArms "Ok").contains (Rules.modeName m) :=
  by cases m <;> decide +kernel

/-- For every mode: the model's "reply after failure" is membership in the variant set the sources list in the `Err` arm. -/
theorem reply_on_failure_is_source_rule (m : ReplyOn) :
    wantsReplyOnErr m = (replyModes Gen.Rules.replyArms "Err").contains (Rules.modeName m) :=
  by cases m <;> decide +kernel

end CwMt.C03
