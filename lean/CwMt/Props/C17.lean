import CwMt.Model.Route
import CwMt.Gen.Router
import CwMt.Gen.Lift
import CwMt.Proofs.Route
import CwMt.Proofs.Engine_Call
/-
  C17 — Every message and query reaches exactly the module configured for it.
  Property theorems only. They are stated over the tables that checklib/tr_router.py regenerates from
  /repo/src/app.rs (`impl CosmosRouter for Router`) and /repo/src/contracts.rs (`customize_msg`) on
  every run (tie T), with the hand-written semantics of a Rust `match` in CwMt/Model/Route.lean:
  `route fs table k` = the first arm enabled under the feature set `fs` whose pattern is variant `k`,
  else the wildcard arm. `.call m meth args true` says: receiver field `self.m`, method `meth`, the
  argument list `args` (context handed on; `sender`; the pattern's variables `bound i` as plain
  identifiers, i.e. sender and payload intact), and the arm body is exactly that call, so the module's
  `Ok`/`Err` is what the caller sees.

  `FeatureSet.harness` is the configuration the correspondence harness is compiled with
  (staking, stargate, cosmwasm_2_2). The `_features` versions cover every feature combination.
  Routing of *sub-messages* through the same `Router::execute` with the emitting contract as sender, and
  rollback after a failing module, are engine facts (C02/C05). At the end of this file two of them are
  restated over the engine model (`ext_message_reaches_module_intact`,
  `migrate_submessages_sent_by_contract`); on the real code they are covered by the correspondence ops
  `send-sub-from ENTRY native|lifted …` (every entry point: instantiate, execute, migrate, sudo, reply)
  and the predicate, which demands the emitting contract as sender of every record.
-/
namespace CwMt.C17
open CwMt.Route CwMt.Gen

/-- Every message kind has exactly one arm, and it hands context, sender and payload unchanged to the
module slot of that kind and returns its result. -/
theorem exec_routes (k : Kind) (hk : k ∈ execKinds) :
    route .harness Router.execTable k = .call k.module (execMethod k) (execArgs k) true ∧
    armCount Router.execTable k = 1 :=
  -- the table is evaluated once, in `execTable_arms`: the arms written for `k`; the feature set stays a variable, and
  -- the harness has every feature the kinds of `execKinds` ask for
  ⟨(route_of_arm rfl (execTable_arms k hk) _).trans (if_pos (by revert k; decide)),
    congrArg List.length (execTable_arms k hk)⟩

example : Kind.gov ∈ execKinds ∧ Kind.any ∈ execKinds := by decide

/-- Under any feature combination: routed as above when the kind's feature is on, otherwise the
wildcard arm (`bail!`, i.e. an error, never another module). -/
theorem exec_routes_features (fs : FeatureSet) (k : Kind) (hk : k ∈ execKinds) :
    route fs Router.execTable k =
      if fs.has k.feature then .call k.module (execMethod k) (execArgs k) true else .fall .bail :=
  route_of_arm rfl (execTable_arms k hk) fs

/-- Query kinds the router has a module slot for (R3): one arm each, request passed on unchanged
together with the router's own querier, result returned as is. -/
theorem query_routes (k : Kind) (hk : k ∈ queryKinds) :
    route .harness Router.queryTable k = .call k.module (queryMethod k) (queryArgs k) true ∧
    armCount Router.queryTable k = 1 :=
  ⟨(route_of_arm rfl (queryTable_arms k hk) _).trans (if_pos (by revert k; decide)),
    congrArg List.length (queryTable_arms k hk)⟩

example : Kind.grpc ∈ queryKinds := by decide

theorem query_routes_features (fs : FeatureSet) (k : Kind) (hk : k ∈ queryKinds) :
    route fs Router.queryTable k =
      if fs.has k.feature then .call k.module (queryMethod k) (queryArgs k) true else .fall .unimplemented :=
  route_of_arm rfl (queryTable_arms k hk) fs

/-- `QueryRequest::Distribution` has no module slot: it takes the wildcard arm (`unimplemented!()`) and
reaches no module (R3: outside the property, but it must not reach a *wrong* module). -/
theorem query_distribution_reaches_no_module (fs : FeatureSet) :
    route fs Router.queryTable .distribution = .fall .unimplemented :=
  route_of_no_arm rfl rfl fs

/-- Privileged messages: wasm, bank, staking. -/
theorem sudo_routes (k : Kind) (hk : k ∈ sudoKinds) :
    route .harness Router.sudoTable k = .call k.module .sudo (sudoArgs k) true ∧
    armCount Router.sudoTable k = 1 :=
  ⟨(route_of_arm rfl (sudoTable_arms k hk) _).trans (if_pos (by revert k; decide)),
    congrArg List.length (sudoTable_arms k hk)⟩

example : Kind.staking ∈ sudoKinds := by decide

theorem sudo_routes_features (fs : FeatureSet) (k : Kind) (hk : k ∈ sudoKinds) :
    route fs Router.sudoTable k =
      if fs.has k.feature then .call k.module .sudo (sudoArgs k) true else .fall .unimplemented :=
  route_of_arm rfl (sudoTable_arms k hk) fs

/-- Lifting a sub-message of an `Empty`-typed contract into the chain's message type keeps its kind
and passes the payload through unchanged — for every kind except `custom` (R3). Full strength: the
`Gov` and `Stargate` arms exist since the D4 fix. -/
theorem lift_preserves_kind (k : Kind) (hk : k ∈ execKinds) (hc : k ≠ .custom) :
    lift .harness Lift.table k = .msg k true ∧ liftArmCount Lift.table k = 1 :=
  ⟨((lift_of_arm rfl (liftTable_arms k hk hc) _).trans (if_pos (by revert k; decide))).trans
      (congrArg (Lifted.msg k) (beq_self_eq_true _)),
    congrArg List.length (liftTable_arms k hk hc)⟩

example : Kind.gov ∈ execKinds ∧ Kind.gov ≠ Kind.custom ∧ Kind.stargate ∈ execKinds ∧ Kind.stargate ≠ Kind.custom := by decide

theorem lift_preserves_kind_features (fs : FeatureSet) (k : Kind) (hk : k ∈ execKinds) (hc : k ≠ .custom)
    (hf : fs.has k.feature = true) : lift fs Lift.table k = .msg k true :=
  ((lift_of_arm rfl (liftTable_arms k hk hc) fs).trans (if_pos hf)).trans
    (congrArg (Lifted.msg k) (beq_self_eq_true _))

/-- The rest of the sub-message (id, payload, gas limit, reply mode) is carried over as it is. -/
theorem lift_keeps_envelope (f : SubField) (hf : f ∈ [SubField.id, .payload, .gas_limit, .reply_on]) :
    subFieldKept Lift.table f = true := by
  revert f
  decide +kernel

/-- R3: `CosmosMsg::Custom(Empty)` of an `Empty`-typed contract cannot be lifted: `unreachable!()`. -/
theorem lift_custom_excluded (fs : FeatureSet) : lift fs Lift.table .custom = .diverge .unreachable :=
  (lift_of_arm (a := ⟨.custom, .none, 1, .diverge .unreachable⟩) rfl rfl fs).trans (if_pos rfl)

end CwMt.C17

/-! ### sub-messages: the emitting entry point does not matter -/
namespace CwMt.C17
open CwMt.Route CwMt.Gen

/-- In the routing model a sub-message returned by contract `c` is dispatched exactly like a top-level
message of the same kind, with `c` as sender, whichever entry point (instantiate, execute, migrate,
sudo, reply) returned it. (By construction of `subDispatch`; that the wasm module of the real code hands
the contract address to the router in all five wrappers is what the two engine theorems below and the
`send-sub-from` correspondence ops are for.) -/
theorem sub_dispatch_entry_independent {A : Type} (fs : FeatureSet) (o₁ o₂ : Origin) (c : A) (k : Kind) :
    subDispatch fs Router.execTable o₁ c k = subDispatch fs Router.execTable o₂ c k ∧
    (subDispatch fs Router.execTable o₁ c k).sender = c ∧
    (subDispatch fs Router.execTable o₁ c k).target = route fs Router.execTable k :=
  ⟨rfl, rfl, rfl⟩

end CwMt.C17

/-! ### the same two facts over the engine model (CwMt/Model/Engine.lean) -/
namespace CwMt.C17
open CwMt
variable {E : Type}

/-- A message for a non-wasm, non-bank module (`.ext kind payload`: custom, staking, distribution, ibc,
gov, stargate/any) is handed to that module's handler with the sender and the payload it was sent with,
and the handler's outcome is the outcome; this holds at every nesting depth, because `execute` is what
`executeSubmsg` calls for sub-messages. -/
theorem ext_message_reaches_module_intact (cfg : Config E) (blk : Block) (fuel : Nat) (ch : Chain E)
    (sender : Addr) (kind : ExtKind) (payload : Val) (tr : Trace) :
    execute cfg blk (fuel + 1) ch sender (.ext kind payload) tr = (cfg.extExec kind ch blk sender payload, tr) :=
  Engine.execute_succ_ext cfg blk fuel ch sender kind payload tr

/-- `migrate`: the sub-messages of the response are processed with the migrated CONTRACT `c` as
dispatcher (fourth argument of `processResponse`), not with the admin `sender` who signed the
migration — the unfolding of the `wasmMigrate` arm for a permitted migration. -/
theorem migrate_submessages_sent_by_contract (cfg : Config E) (blk : Block) (fuel : Nat) (ch : Chain E)
    (sender : Addr) (c : String) (n : Nat) (m : Val) (tr : Trace) (cd : ContractData)
    (hv : cfg.validAddr c = true) (hk : codeKnown cfg n = true)
    (hc : ch.contracts.get? c = some cd) (ha : cd.admin = some sender) :
    execute cfg blk (fuel + 1) ch sender (.wasmMigrate c n m) tr =
      (match callContract cfg blk { ch with contracts := ch.contracts.set c { cd with codeId := n } } c (.migrate m) tr with
       | (.ok (resp, ch₂), tr₁) =>
         (match processResponse cfg blk fuel ch₂ c
             (buildAppResponse c { ty := "migrate", attrs := [contractAttr c, ⟨"code_id", toString n⟩] } resp).1
             (buildAppResponse c { ty := "migrate", attrs := [contractAttr c, ⟨"code_id", toString n⟩] } resp).2 tr₁ with
          | (.ok (r, ch₃), tr₂) => (.ok ({ r with data := r.data.map encodeExecuteResponse }, ch₃), tr₂)
          | other => other)
       | (.err, tr₁) => (.err, tr₁)
       | (.panic, tr₁) => (.panic, tr₁)
       | (.outOfFuel, tr₁) => (.outOfFuel, tr₁)) :=
  (Engine.execute_wasmMigrate_of_admin cfg blk fuel ch sender c n m tr cd hv hk hc ha).2.2

end CwMt.C17
