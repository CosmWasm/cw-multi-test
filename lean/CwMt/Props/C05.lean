import CwMt.Proofs.EngineOrder
import CwMt.Proofs.Bank
/-
  C05 — Contracts see the true caller, own address, current block and attached funds.
  Stated against the ghost invocation trace.
-/
namespace CwMt.C05
open CwMt
variable {E : Type}

/-- Every sender a contract is told during the execution of a message is the account that sent that
message or a contract that was invoked earlier in the same execution: there is no path that takes
the sender from message contents. -/
theorem sender_authentic (cfg : Config E) (blk : Block) (fuel : Nat) (ch : Chain E) (sender : Addr)
    (m : Msg) (tr : Trace) (new : Trace)
    (h : (execute cfg blk fuel ch sender m tr).2 = tr ++ new) : SendersFrom sender new :=
  Engine.sender_authentic cfg blk fuel ch sender m tr new h

/-- The direct callee of a top-level (or any) wasm execute message is told exactly the message's
sender and funds. -/
theorem direct_callee_sees_sender_and_funds (cfg : Config E) (blk : Block) (fuel : Nat) (ch : Chain E)
    (sender : Addr) (c : String) (msg : Val) (funds : Coins) (tr : Trace) (new : Trace) (e : TraceEntry)
    (h : (execute cfg blk fuel ch sender (.wasmExecute c msg funds) tr).2 = tr ++ new)
    (he : new.head? = some e) :
    e.callee = c ∧ e.entry = .execute ⟨sender, funds⟩ msg := by
  have hnil : (execute cfg blk fuel ch sender (.wasmExecute c msg funds) tr).2 = tr → False := fun h1 => by
    rw [h1] at h
    rw [List.self_eq_append_right.1 h] at he
    cases he
  cases fuel with
  | zero => exact (hnil rfl).elim
  | succ fuel =>
    rcases EngineOrder.body_before_submessages cfg blk fuel ch sender c msg funds tr with h1 | ⟨note, rest, h1⟩
    · exact (hnil h1).elim
    · rw [h1, List.append_assoc] at h
      cases List.append_cancel_left h
      cases he
      exact ⟨rfl, rfl⟩

/-- Every invocation (all five entry points) is shown the callee's own address and the block of the
transaction. -/
theorem env_authentic (cfg : Config E) (blk : Block) (fuel : Nat) (ch : Chain E) (sender : Addr)
    (m : Msg) (tr : Trace) (new : Trace)
    (h : (execute cfg blk fuel ch sender m tr).2 = tr ++ new) : ∀ e ∈ new, EnvOK blk e :=
  Engine.env_authentic cfg blk fuel ch sender m tr new h

/-- Funds are moved before the contract runs: the callee is invoked on `ch₁`, the state in which the
transfer from the sender has already happened (and its snapshot for queries is that state). -/
theorem funds_moved_first (cfg : Config E) (blk : Block) (fuel : Nat) (ch ch₁ : Chain E) (sender : Addr)
    (c : String) (msg : Val) (funds : Coins) (tr : Trace)
    (hv : cfg.validAddr c = true) (hs : sendFunds ch sender c funds = .ok ch₁) :
    execute cfg blk (fuel + 1) ch sender (.wasmExecute c msg funds) tr =
      (match callContract cfg blk ch₁ c (.execute ⟨sender, funds⟩ msg) tr with
       | (.ok (resp, ch₂), tr₁) =>
         (match processResponse cfg blk fuel ch₂ c
             (buildAppResponse c { ty := "execute", attrs := [contractAttr c] } resp).1
             (buildAppResponse c { ty := "execute", attrs := [contractAttr c] } resp).2 tr₁ with
          | (.ok (r, ch₃), tr₂) => (.ok ({ r with data := r.data.map encodeExecuteResponse }, ch₃), tr₂)
          | other => other)
       | (.err, tr₁) => (.err, tr₁)
       | (.panic, tr₁) => (.panic, tr₁)
       | (.outOfFuel, tr₁) => (.outOfFuel, tr₁)) ∧
      (funds ≠ [] → Bank.send ch.bank sender c funds = some ch₁.bank) := by
  refine ⟨?_, EngineB.sendFunds_nonempty hs⟩
  rw [Engine.execute_succ_wasmExecute, hs, if_neg (by rw [hv]; nofun)]
  exact Engine.mapResp_callThen cfg blk _ fuel ch₁ c _ _ tr

/-- Attaching more than the sender owns fails without running the contract. -/
theorem insufficient_funds_no_call (cfg : Config E) (blk : Block) (fuel : Nat) (ch : Chain E) (sender : Addr)
    (c : String) (msg : Val) (funds : Coins) (tr : Trace)
    (hne : funds ≠ []) (hs : Bank.send ch.bank sender c funds = none) :
    execute cfg blk (fuel + 1) ch sender (.wasmExecute c msg funds) tr = (.err, tr) := by
  rw [Engine.execute_succ_wasmExecute, Engine.sendFunds_eq, if_neg hne, hs]
  split <;> rfl

/-- When funds are attached (sender ≠ callee) the state the callee runs on shows, for every
denomination, the callee's balance raised and the sender's lowered by exactly the attached total. -/
theorem funds_arrive {E : Type} (ch ch₁ : Chain E) (sender : Addr) (c : String) (funds : Coins)
    (hinv : Bank.NormInv ch.bank) (hne : sender ≠ c) (hf : funds ≠ [])
    (hs : sendFunds ch sender c funds = .ok ch₁) :
    ∀ d, Bank.queryBalance ch₁.bank c d = Bank.queryBalance ch.bank c d + Bank.totalOf funds d ∧
         Bank.queryBalance ch₁.bank sender d + Bank.totalOf funds d = Bank.queryBalance ch.bank sender d := by
  intro d
  have hq := Bank.queryBalance_send hinv (EngineB.sendFunds_nonempty hs hf)
  have h1 := hq c d
  have h2 := hq sender d
  rw [if_neg hne, if_pos rfl] at h1
  rw [if_pos rfl, if_neg (Ne.symm hne)] at h2
  omega

end CwMt.C05
