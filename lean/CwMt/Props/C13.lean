import CwMt.Proofs.EngineB_Validate
import CwMt.Proofs.EngineTx_Basic
import CwMt.Model.Rules
import CwMt.Gen.Rules
/-
  C13 — Malformed contract responses are rejected before any effect is kept.
-/
namespace CwMt.C13
open CwMt
variable {E : Type}

/-- `rtrim` removes exactly the leading and trailing Unicode White_Space characters. -/
theorem trim_spec (cs : List Char) :
    ∃ pre post, cs = pre ++ trimChars cs ++ post ∧ (∀ c ∈ pre, isWhite c = true) ∧ (∀ c ∈ post, isWhite c = true) ∧
      (∀ c, (trimChars cs).head? = some c → isWhite c = false) ∧
      (∀ c, (trimChars cs).getLast? = some c → isWhite c = false) :=
  EngineB.trim_spec cs

/-- the acceptance predicate: every attribute key (on the response and on every event) is, after
trimming, non-empty and does not start with an underscore, and every event type is at least two
bytes long after trimming. Values — including empty values — never matter. -/
theorem verify_iff (r : Response) :
    responseOk r = true ↔
      ((∀ a ∈ r.attrs, KeyOK a.key) ∧
       ∀ e ∈ r.events, (∀ a ∈ e.attrs, KeyOK a.key) ∧ 2 ≤ (rtrim e.ty).utf8ByteSize) :=
  EngineB.verify_iff r

theorem values_never_matter (r : Response) (f : String → String) :
    responseOk { r with attrs := r.attrs.map fun a => { a with value := f a.value },
                        events := r.events.map fun e => { e with attrs := e.attrs.map fun a => { a with value := f a.value } } }
      = responseOk r := by
  -- stated with `Function.comp_def`: unifying `(attrOk ∘ g) a` with `attrOk _` unfolds `attrOk` first and is very slow
  simp only [EngineB.responseOk_eq, List.all_map, Function.comp_def, EngineB.attrOk_value, EngineB.eventOk_values]

/-- every entry point: a malformed response makes the call fail (with the invocation on the trace),
exactly like a contract error — and, being an error, it yields no state (C01/C02 roll it back). -/
theorem malformed_rejected (cfg : Config E) (blk : Block) (ch : Chain E) (addr : Addr) (en : Entry) (tr : Trace)
    (cd : ContractData) (code : Code E) (resp : Response) (own' : Store Val) (note : String)
    (hc : ch.contracts.get? addr = some cd) (hcode : contractCode? cfg cd.codeId = some code)
    (hrun : code.run en (contractEnv blk addr) ch ((ch.cstore.get? addr).getD []) = (.ok (resp, own'), note))
    (hbad : responseOk resp = false) :
    callContract cfg blk ch addr en tr = (.err, tr ++ [⟨addr, en, contractEnv blk addr, note⟩]) := by
  rw [EngineB.callContract_eq cfg blk ch addr en tr hc hcode]
  simp [hrun, hbad]

/-- same outcome as a plain contract error of that call -/
theorem rollback_as_error (cfg : Config E) (blk : Block) (ch : Chain E) (addr : Addr) (en : Entry) (tr : Trace)
    (cd : ContractData) (code : Code E) (note : String)
    (hc : ch.contracts.get? addr = some cd) (hcode : contractCode? cfg cd.codeId = some code)
    (hrun : code.run en (contractEnv blk addr) ch ((ch.cstore.get? addr).getD []) = (.err, note)) :
    callContract cfg blk ch addr en tr = (.err, tr ++ [⟨addr, en, contractEnv blk addr, note⟩]) := by
  rw [EngineB.callContract_eq cfg blk ch addr en tr hc hcode]
  simp [hrun]

/-- accepted keys, values and event types surface unchanged (not trimmed) -/
theorem accepted_unchanged (addr : Addr) (custom : Event) (r : Response) :
    (∀ a ∈ r.attrs, r.attrs ≠ [] → ∃ e ∈ (buildAppResponse addr custom r).1.events, e.ty = "wasm" ∧ a ∈ e.attrs) ∧
    (∀ ev ∈ r.events, ∃ e ∈ (buildAppResponse addr custom r).1.events,
        e.ty = "wasm-" ++ ev.ty ∧ e.attrs = contractAttr addr :: ev.attrs) := by
  rw [EngineB.buildAppResponse_events]
  constructor
  · intro a ha hne
    refine ⟨{ ty := "wasm", attrs := contractAttr addr :: r.attrs }, ?_, rfl, List.mem_cons_of_mem _ ha⟩
    rw [if_neg (by simpa using hne)]
    simp
  · intro ev hev
    exact ⟨_, List.mem_cons_of_mem _ (List.mem_append_right _ (List.mem_map_of_mem hev)), rfl, rfl⟩

/-- non-vacuity -/
-- the elaborator's evaluator gets stuck on `String.startsWith`; the kernel evaluates it
example : responseOk { attrs := [⟨" key ", ""⟩], events := [{ ty := "ab", attrs := [⟨"k", ""⟩] }] } = true := by
  decide +kernel
example : responseOk { attrs := [⟨" _key", "v"⟩] } = false := by
  decide +kernel
example : responseOk { events := [{ ty := " a ", attrs := [] }] } = false := by decide
example : responseOk { attrs := [⟨" ", "v"⟩] } = false := by decide

/-! ### "before any effect is kept", for the engine with in-place writes (`CwMt/Model/EngineTx.lean`)

In the Rust code `with_storage` commits the contract's writes into the enclosing storage as soon as the entry
point returns `Ok`; `verify_response` runs after that. So when the error is raised the writes of the rejected
call ARE in the storage it was handed — what makes the property true is the cache around it. -/

/-- the rejected call returns `err` with its writes in place -/
theorem imperative_malformed_writes_then_error (cfg : Config E) (d : Dirt E) (blk : Block) (ch : Chain E) (addr : Addr)
    (en : Entry) (tr : Trace) (cd : ContractData) (code : Code E) (resp : Response) (own' : Store Val) (note : String)
    (hc : ch.contracts.get? addr = some cd) (hcode : contractCode? cfg cd.codeId = some code)
    (hrun : code.run en (contractEnv blk addr) ch ((ch.cstore.get? addr).getD []) = (.ok (resp, own'), note))
    (hbad : responseOk resp = false) :
    callContractI cfg d blk ch addr en tr =
      (.err, { ch with cstore := ch.cstore.set addr own' }, tr ++ [⟨addr, en, contractEnv blk addr, note⟩]) := by
  rw [EngineTx.callContractI_eq cfg d blk ch addr en tr hc hcode]
  simp [hrun, hbad]

/-- … and the nearest enclosing `transactional` (entry point or sub-message) drops them -/
theorem imperative_malformed_dropped_by_cache (cfg : Config E) (d : Dirt E) (blk : Block) (ch : Chain E) (addr : Addr)
    (en : Entry) (tr : Trace) (cd : ContractData) (code : Code E) (resp : Response) (own' : Store Val) (note : String)
    (hc : ch.contracts.get? addr = some cd) (hcode : contractCode? cfg cd.codeId = some code)
    (hrun : code.run en (contractEnv blk addr) ch ((ch.cstore.get? addr).getD []) = (.ok (resp, own'), note))
    (hbad : responseOk resp = false) :
    transactionalI ch (callContractI cfg d blk ch addr en tr) =
      (.err, ch, tr ++ [⟨addr, en, contractEnv blk addr, note⟩]) := by
  rw [imperative_malformed_writes_then_error cfg d blk ch addr en tr cd code resp own' note hc hcode hrun hbad]
  rfl

/-! ### tie T: the validation steps of the current sources (re-read on every run by checklib/tr_rules.py) -/

/-- `verify_attributes` trims key (and value, for the message only), bails on an empty and on a `_`-prefixed trimmed key;
`verify_response` applies it to the response's attributes and to every event's attributes and bails on a trimmed event
type of fewer than two bytes — the steps, in this order, that `attrOk` / `eventOk` / `responseOk` transcribe. -/
theorem validation_steps_as_modelled : Gen.Rules.verifySteps = expectedVerifySteps :=
  rfl

end CwMt.C13
