import CwMt.Proofs.Engine
import CwMt.Proofs.Prefix
import CwMt.Proofs.Layout
import CwMt.Proofs.FlatChain
/-
  C08 — Each contract's storage is private to it and is all it can touch.
  Two layers: (1) at the byte level, the raw key spaces of different contracts and of the other
  modules are disjoint for all key bytes (from the C07 prefix theorems, for the layout
  `["wasm", "contract_data/" ++ addr]`, `["wasm","contracts"]`, `["bank"]`, `["staking"]`, `["distribution"]`);
  (2) at the engine level, a contract call changes only the callee's window, and a whole message
  execution changes only the windows of contracts that were actually invoked.
-/
namespace CwMt.C08
open CwMt
variable {E : Type}

/-- A contract call touches nothing but the callee's own window. -/
theorem call_touches_own_window_only (cfg : Config E) (blk : Block) (ch ch' : Chain E) (addr : Addr)
    (en : Entry) (tr tr' : Trace) (resp : Response)
    (h : callContract cfg blk ch addr en tr = (.ok (resp, ch'), tr')) :
    ch'.bank = ch.bank ∧ ch'.contracts = ch.contracts ∧
      ∀ b, b ≠ addr → ch'.cstore.get? b = ch.cstore.get? b := by
  rcases Engine.callContract_cases cfg blk ch addr en with ⟨_, h1⟩ | ⟨_, note, o, h1, h2⟩
  · rw [h1] at h; cases h
  · rw [h1] at h
    obtain ⟨own', rfl⟩ := h2 resp ch' (Prod.mk.inj h).1
    exact ⟨rfl, rfl, fun b hb => AMap.get?_set_ne _ _ hb⟩

/-- Non-interference for whole executions: a contract that is not invoked during the execution of a
message (at any depth) keeps exactly its storage. -/
theorem cstore_frame (cfg : Config E) (hf : ExtFrame cfg) (blk : Block) (fuel : Nat) (ch ch' : Chain E)
    (sender : Addr) (m : Msg) (tr new : Trace) (r : AppResponse)
    (h : execute cfg blk fuel ch sender m tr = (.ok (r, ch'), tr ++ new))
    (a : Addr) (ha : ∀ e ∈ new, e.callee ≠ a) : ch'.cstore.get? a = ch.cstore.get? a :=
  Engine.cstore_frame cfg hf blk fuel ch ch' sender m tr new r h a ha

/-- What a raw query returns is the callee's window (absent = empty bytes). -/
theorem raw_query_reads_window (cfg : Config E) (eq : ExtKind → Chain E → Block → Val → Outcome Val)
    (blk : Block) (ch : Chain E) (c : String) (k : Val) (hv : cfg.validAddr c = true) :
    query cfg eq blk ch (.wasmRaw c k) = .ok (.bytes ((((ch.cstore.get? c).getD []).get k).getD [])) :=
  if_pos hv

/-- Byte level: the raw key spaces of two different contracts never meet, whatever keys they use. -/
theorem contract_windows_disjoint (a b : String) (pa pb k : Key)
    (ha : toLPNested [("wasm".toUTF8.toList), ("contract_data/" ++ a).toUTF8.toList] = .ok pa)
    (hb : toLPNested [("wasm".toUTF8.toList), ("contract_data/" ++ b).toUTF8.toList] = .ok pb)
    (hka : pa <+: k) (hkb : pb <+: k) : ("contract_data/" ++ a).toUTF8.toList = ("contract_data/" ++ b).toUTF8.toList :=
  Decidable.by_contra fun hne => Layout.two_segment_disjoint hne ha hb k hka hkb

end CwMt.C08

/-
  Byte level, contract versus the rest of the chain store. The raw key layout
  (/repo/src/wasm.rs:30-33,142,156,169, staking.rs:111-113, bank.rs): contract `a` owns the raw keys
  under `toLPNested ["wasm", "contract_data/" ++ a]`; the contract registry lives under
  `toLPNested ["wasm", "contracts"]`; bank, staking and distribution under `toLPNested ["bank"]`,
  `["staking"]`, `["distribution"]`. For every address string and every raw key, whatever its
  bytes: a key of the contract's space is in none of the others.
-/
namespace CwMt.C08
open CwMt

theorem contract_window_disjoint_from_bank (a : String) (pc pm k : Key)
    (hc : toLPNested [("wasm".toUTF8.toList), ("contract_data/" ++ a).toUTF8.toList] = .ok pc)
    (hm : toLPNested [("bank".toUTF8.toList)] = .ok pm) (hkc : pc <+: k) (hkm : pm <+: k) : False :=
  Layout.two_segment_disjoint_from_module (Layout.utf8_ne (by simp only [String.reduceNe])) hc hm k hkc hkm

theorem contract_window_disjoint_from_staking (a : String) (pc pm k : Key)
    (hc : toLPNested [("wasm".toUTF8.toList), ("contract_data/" ++ a).toUTF8.toList] = .ok pc)
    (hm : toLPNested [("staking".toUTF8.toList)] = .ok pm) (hkc : pc <+: k) (hkm : pm <+: k) :
    False :=
  Layout.two_segment_disjoint_from_module (Layout.utf8_ne (by simp only [String.reduceNe])) hc hm k hkc hkm

theorem contract_window_disjoint_from_distribution (a : String) (pc pm k : Key)
    (hc : toLPNested [("wasm".toUTF8.toList), ("contract_data/" ++ a).toUTF8.toList] = .ok pc)
    (hm : toLPNested [("distribution".toUTF8.toList)] = .ok pm) (hkc : pc <+: k) (hkm : pm <+: k) :
    False :=
  Layout.two_segment_disjoint_from_module (Layout.utf8_ne (by simp only [String.reduceNe])) hc hm k hkc hkm

/-- … nor in the contract registry, although both live under `wasm`: `contract_data/…` and
`contracts` differ in their ninth byte (`_` / `s`). -/
theorem contract_window_disjoint_from_registry (a : String) (pc pr k : Key)
    (hc : toLPNested [("wasm".toUTF8.toList), ("contract_data/" ++ a).toUTF8.toList] = .ok pc)
    (hr : toLPNested [("wasm".toUTF8.toList), ("contracts".toUTF8.toList)] = .ok pr)
    (hkc : pc <+: k) (hkr : pr <+: k) : False :=
  Layout.two_segment_disjoint (Layout.utf8_ne (Layout.contract_namespace_ne_contracts a)) hc hr k hkc hkr

/-! ### non-vacuity: the prefixes in the hypotheses exist and are the expected bytes -/

theorem bank_prefix : toLPNested [("bank".toUTF8.toList)] = .ok [0, 4, 98, 97, 110, 107] := by
  rw [Layout.utf8_ofList]; decide +kernel

theorem staking_prefix : toLPNested [("staking".toUTF8.toList)] =
    .ok [0, 7, 115, 116, 97, 107, 105, 110, 103] := by
  rw [Layout.utf8_ofList]; decide +kernel

theorem distribution_prefix : toLPNested [("distribution".toUTF8.toList)] =
    .ok [0, 12, 100, 105, 115, 116, 114, 105, 98, 117, 116, 105, 111, 110] := by
  rw [Layout.utf8_ofList]; decide +kernel

theorem registry_prefix : toLPNested [("wasm".toUTF8.toList), ("contracts".toUTF8.toList)] =
    .ok [0, 4, 119, 97, 115, 109, 0, 9, 99, 111, 110, 116, 114, 97, 99, 116, 115] := by
  rw [Layout.utf8_ofList, Layout.utf8_ofList]; decide +kernel

/-- Every address of at most 65521 bytes has a storage prefix (longer ones make `encode_length`
panic): `00 04 "wasm"`, the 2-byte big-endian length of the namespace, `"contract_data/"`, the
address. -/
theorem contract_prefix (a : String) (h : a.toUTF8.toList.length ≤ 65521) :
    toLPNested [("wasm".toUTF8.toList), ("contract_data/" ++ a).toUTF8.toList] =
      .ok ([0, 4, 119, 97, 115, 109] ++
        ([UInt8.ofNat ((14 + a.toUTF8.toList.length) / 256),
          UInt8.ofNat ((14 + a.toUTF8.toList.length) % 256)] ++
        ([99, 111, 110, 116, 114, 97, 99, 116, 95, 100, 97, 116, 97, 47] ++ a.toUTF8.toList))) := by
  rw [Layout.contract_namespace_bytes]
  have h4 : toLP "wasm".toUTF8.toList = .ok [0, 4, 119, 97, 115, 109] := by rw [Layout.utf8_ofList]; decide +kernel
  refine Prefix.toLPNested_cons_ok_iff.2
    ⟨_, h4, _, Prefix.toLPNested_cons_ok_iff.2 ⟨_, Prefix.toLP_of_le _ ?_, _, rfl, List.append_nil _⟩, ?_⟩
  · -- the namespace segment fits the two length bytes
    rw [List.length_append]; exact Nat.add_le_add_left h 14
  · -- and its length is 14 + that of the address
    rw [List.length_append]; rfl

/-- the shortest possible address, the empty one: its space `00 04 wasm 00 0e contract_data/` and the
registry's `00 04 wasm 00 09 contracts` share the first six bytes and part ways at the length -/
example : toLPNested [("wasm".toUTF8.toList), ("contract_data/" ++ "").toUTF8.toList] =
    .ok [0, 4, 119, 97, 115, 109, 0, 14, 99, 111, 110, 116, 114, 97, 99, 116, 95, 100, 97, 116, 97, 47] := by
  rw [contract_prefix "" (by rw [Layout.utf8_eq]; decide), Layout.utf8_eq ""]
  decide

/-! ### from the one root store to the model's components

The engine model keeps `bank`, the contract registry, every `cstore[a]`, staking … as separate values; the code keeps
ONE `Storage`. `window pfx raw` is the component living under a namespace. A contract's write (or removal) through its
view of the root store is exactly that write on its own component, and the bank, staking, distribution and registry
components and every other contract's component are the same stores as before — as whole values, for every key. -/

theorem flat_contract_write (raw : Store Val) (hs : raw.Sorted) (a : String) (pc k : Key) (v : Val)
    (hc : toLPNested [("wasm".toUTF8.toList), ("contract_data/" ++ a).toUTF8.toList] = .ok pc) :
    window pc (View.set raw pc k v) = (window pc raw).set k v ∧
    (∀ pm, toLPNested [("bank".toUTF8.toList)] = .ok pm → window pm (View.set raw pc k v) = window pm raw) ∧
    (∀ pm, toLPNested [("staking".toUTF8.toList)] = .ok pm → window pm (View.set raw pc k v) = window pm raw) ∧
    (∀ pm, toLPNested [("distribution".toUTF8.toList)] = .ok pm → window pm (View.set raw pc k v) = window pm raw) ∧
    (∀ pr, toLPNested [("wasm".toUTF8.toList), ("contracts".toUTF8.toList)] = .ok pr →
      window pr (View.set raw pc k v) = window pr raw) ∧
    (∀ (b : String) (pb : Key),
      ("contract_data/" ++ a).toUTF8.toList ≠ ("contract_data/" ++ b).toUTF8.toList →
      toLPNested [("wasm".toUTF8.toList), ("contract_data/" ++ b).toUTF8.toList] = .ok pb →
      window pb (View.set raw pc k v) = window pb raw) := by
  have w := Flat.write_refines hs pc k v
  exact ⟨w.1, Layout.contract_frame hc w.2⟩

theorem flat_contract_remove (raw : Store Val) (a : String) (pc k : Key)
    (hc : toLPNested [("wasm".toUTF8.toList), ("contract_data/" ++ a).toUTF8.toList] = .ok pc) :
    window pc (View.remove raw pc k) = (window pc raw).remove k ∧
    (∀ pm, toLPNested [("bank".toUTF8.toList)] = .ok pm → window pm (View.remove raw pc k) = window pm raw) ∧
    (∀ pm, toLPNested [("staking".toUTF8.toList)] = .ok pm → window pm (View.remove raw pc k) = window pm raw) ∧
    (∀ pm, toLPNested [("distribution".toUTF8.toList)] = .ok pm → window pm (View.remove raw pc k) = window pm raw) ∧
    (∀ pr, toLPNested [("wasm".toUTF8.toList), ("contracts".toUTF8.toList)] = .ok pr →
      window pr (View.remove raw pc k) = window pr raw) ∧
    (∀ (b : String) (pb : Key),
      ("contract_data/" ++ a).toUTF8.toList ≠ ("contract_data/" ++ b).toUTF8.toList →
      toLPNested [("wasm".toUTF8.toList), ("contract_data/" ++ b).toUTF8.toList] = .ok pb →
      window pb (View.remove raw pc k) = window pb raw) := by
  have w := Flat.remove_refines raw pc k
  exact ⟨w.1, Layout.contract_frame hc w.2⟩

/-- the frame works in the other direction too: a write by ANY module under a namespace disjoint from the contract's
leaves the contract's component untouched (bank transfers, registry updates, staking bookkeeping) -/
theorem flat_foreign_write (raw : Store Val) (q r pc : Key) (v : Val) (hq : q <+: r)
    (hd : Flat.Disjoint q pc) : window pc (Store.set raw r v) = window pc raw := by
  obtain ⟨t, rfl⟩ := hq
  exact Flat.window_set_other raw pc _ v (Flat.hasPrefix_false_of_disjoint hd t)

/-! ### the flat store computed by the model (`Flat.flatten`, compared byte for byte with the real root storage by `rawdump`) -/

/-- what the root storage holds under a contract's storage key `00 04 wasm len(contract_data/‖a) contract_data/ a ‖ k` is what that
contract's own store holds under `k` — for every key `k`, whatever its bytes — and nothing when the contract has no store -/
theorem flat_store_contract_entry (ch : Chain E) (wf : Flat.FlatWF ch) (a : Addr) (k : Key) (ha : (Flat.utf8 a).length ≤ 65521) :
    (Flat.flatten ch).get (Flat.storeKey a k) = (ch.cstore.get? a).bind (·.get k) :=
  Flat.get_flatten_storeKey ch wf a k ha

/-- the key of one contract's entry is never the key of another contract's entry, of a balance or of a registry record -/
theorem flat_keys_disjoint (a b : Addr) (k k' : Key) (ha : (Flat.utf8 a).length ≤ 65521) (hb : (Flat.utf8 b).length ≤ 65521) :
    (Flat.storeKey a k = Flat.storeKey b k' → a = b ∧ k = k') ∧ Flat.bankKey b ≠ Flat.storeKey a k ∧ Flat.contractKey b ≠ Flat.storeKey a k :=
  ⟨Flat.storeKey_inj ha hb, Flat.bankKey_ne_storeKey b a k, Flat.contractKey_ne_storeKey b a k ha⟩

end CwMt.C08
