import CwMt.Proofs.EngineB_Wire
import CwMt.Proofs.Engine_Basic
/-
  C04 — Events and response data are composed deterministically per wasmd rules.
  The composition functions of the model (`buildAppResponse`, the folding in `processResponse` /
  `executeSubmsg`, the wire encoders) are the rules themselves; the theorems pin their shape and the
  encoders' invertibility.
-/
namespace CwMt.C04
open CwMt
variable {E : Type}

/-- entry-point event, then the `wasm` event iff the contract set attributes (contract address
first), then each custom event renamed `wasm-<type>` with the contract address as first attribute;
data and messages passed through. -/
theorem events_of_call (addr : Addr) (custom : Event) (r : Response) :
    (buildAppResponse addr custom r).1.events =
      custom ::
        ((if r.attrs.isEmpty then [] else [{ ty := "wasm", attrs := contractAttr addr :: r.attrs }]) ++
          r.events.map fun ev => { ty := "wasm-" ++ ev.ty, attrs := contractAttr addr :: ev.attrs }) ∧
    (buildAppResponse addr custom r).1.data = r.data ∧ (buildAppResponse addr custom r).2 = r.msgs :=
  ⟨rfl, rfl, rfl⟩

/-- events of a successful sub-message are followed by those of its reply; data is the reply's. -/
theorem sub_events_then_reply_events (cfg : Config E) (blk : Block) (fuel : Nat) (ch ch₁ ch₂ : Chain E)
    (contract : Addr) (sm : SubMsg) (tr tr₁ tr₂ : Trace) (r rr : AppResponse)
    (h : execute cfg blk fuel ch contract sm.msg tr = (.ok (r, ch₁), tr₁))
    (hw : wantsReplyOnOk sm.replyOn = true)
    (hr : reply cfg blk fuel ch₁ contract ⟨sm.id, sm.payload, .ok r.events r.data⟩ tr₁ = (.ok (rr, ch₂), tr₂)) :
    executeSubmsg cfg blk (fuel + 1) ch contract sm tr =
      (.ok ({ events := r.events ++ rr.events, data := rr.data }, ch₂), tr₂) := by
  rw [Engine.executeSubmsg_succ, h]
  dsimp only
  rw [if_pos hw, hr]

/-- a sub-message whose reply is not invoked contributes its events and no data -/
theorem no_reply_no_data (cfg : Config E) (blk : Block) (fuel : Nat) (ch ch₁ : Chain E)
    (contract : Addr) (sm : SubMsg) (tr tr₁ : Trace) (r : AppResponse)
    (h : execute cfg blk fuel ch contract sm.msg tr = (.ok (r, ch₁), tr₁))
    (hw : wantsReplyOnOk sm.replyOn = false) :
    executeSubmsg cfg blk (fuel + 1) ch contract sm tr = (.ok ({ events := r.events, data := none }, ch₁), tr₁) := by
  rw [Engine.executeSubmsg_succ, h]
  exact if_neg (by rw [hw]; nofun)

/-- a caught failure contributes only the reply's events (those of the failed sub-message are dropped) -/
theorem caught_failure_events (cfg : Config E) (blk : Block) (fuel : Nat) (ch : Chain E)
    (contract : Addr) (sm : SubMsg) (tr tr₁ : Trace)
    (h : execute cfg blk fuel ch contract sm.msg tr = (.err, tr₁))
    (hw : wantsReplyOnErr sm.replyOn = true) :
    executeSubmsg cfg blk (fuel + 1) ch contract sm tr =
      reply cfg blk fuel ch contract ⟨sm.id, sm.payload, .err⟩ tr₁ := by
  rw [Engine.executeSubmsg_succ, h]
  exact if_pos hw

/-- BankMsg::Send yields exactly one `transfer` event (recipient, sender, amount); burn yields none. -/
theorem bank_event (ch ch' : Chain E) (sender : Addr) (to : String) (amount : Coins) (r : AppResponse)
    (h : bankExecute ch sender (.bankSend to amount) = .ok (r, ch')) :
    r = { events := [{ ty := "transfer", attrs := [⟨"recipient", to⟩, ⟨"sender", sender⟩,
            ⟨"amount", coinsToString amount⟩] }], data := none } := by
  rw [Engine.bankExecute_bankSend] at h
  split at h
  · exact (Prod.mk.inj (Outcome.ok.inj h)).1.symm
  · cases h

theorem burn_no_event (ch ch' : Chain E) (sender : Addr) (amount : Coins) (r : AppResponse)
    (h : bankExecute ch sender (.bankBurn amount) = .ok (r, ch')) : r = {} := by
  rw [Engine.bankExecute_bankBurn] at h
  split at h
  · exact (Prod.mk.inj (Outcome.ok.inj h)).1.symm
  · cases h

/-! ### the wire encodings are invertible (so "present but empty" is not confused with "absent" by
the encoder: `Some []` encodes to the empty message and decodes to empty data) -/

theorem varint_roundtrip (n : Nat) (rest : List UInt8) (h : n < 128 ^ 10) :
    unvarint (varint n ++ rest) = some (n, rest) := EngineB.unvarint_varint n rest h

theorem execute_response_roundtrip (d : List UInt8) (h : d.length < 128 ^ 10) :
    decodeExecuteResponse (encodeExecuteResponse d) = some d := by
  have h1 := EngineB.takeField_lenField 0x0a d [] h (.inr nofun)
  rw [List.append_nil] at h1
  delta decodeExecuteResponse encodeExecuteResponse
  rw [h1]

theorem instantiate_response_roundtrip (addr : String) (d : List UInt8)
    (ha : addr.toUTF8.toList.length < 128 ^ 10) (hd : d.length < 128 ^ 10) :
    decodeInstantiateResponse (encodeInstantiateResponse addr d) = some (addr.toUTF8.toList, d) := by
  -- the data field does not begin with the tag of the address field, so an empty address is read back as empty
  have h1 := EngineB.takeField_lenField 0x0a addr.toUTF8.toList (lenField 0x12 d) ha
    (.inr (by delta lenField; split <;> simp))
  have h2 := EngineB.takeField_lenField 0x12 d [] hd (.inr nofun)
  rw [List.append_nil] at h2
  delta decodeInstantiateResponse encodeInstantiateResponse
  rw [h1]
  dsimp only
  rw [h2]

end CwMt.C04
