import CwMt.Proofs.Prefix
/-
  C07 — Namespaced storage views are exact, disjoint windows onto the base store.
  Property theorems only; helper lemmas live in CwMt/Proofs/{Store,Prefix}.lean.

  Model: CwMt/Model/Prefix.lean (`toLP`, `toLPNested`, `namespaceUpperBound`, `View.*`, `window`).
  `window pfx base` is the specification: the base entries whose raw key starts with `pfx`, with
  `pfx` stripped. Segments longer than 65535 bytes make `toLP` panic (as `encode_length` does), so a
  namespace path *has* a prefix exactly when all its segments are at most 65535 bytes long.
-/
namespace CwMt.C07
open CwMt

/-! ### the length-prefixed code is prefix-free -/

/-- One segment: equal raw keys under two namespaces force equal namespaces and equal rests. -/
theorem lp_prefix_free (a b : List UInt8) (pa pb x y : Key)
    (ha : toLP a = .ok pa) (hb : toLP b = .ok pb) (h : pa ++ x = pb ++ y) : a = b ∧ x = y :=
  Prefix.toLP_prefix_free ha hb h

/-- Paths: a raw key lies under both paths only if one path extends the other. -/
theorem disjoint (p q : List (List UInt8)) (pp pq k : Key)
    (hp : toLPNested p = .ok pp) (hq : toLPNested q = .ok pq)
    (hkp : pp <+: k) (hkq : pq <+: k) : p <+: q ∨ q <+: p :=
  Prefix.toLPNested_prefix_comparable hp hq hkp hkq

/-- If `q` extends `p` by `r`, the `q`-window is precisely the `r`-window of the `p`-window. -/
theorem subwindow (p r : List (List UInt8)) (pp pr : Key) (base : Store Val)
    (hp : toLPNested p = .ok pp) (hr : toLPNested r = .ok pr) :
    toLPNested (p ++ r) = .ok (pp ++ pr) ∧ window (pp ++ pr) base = window pr (window pp base) :=
  ⟨Prefix.toLPNested_append hp hr, Prefix.window_append pp pr base⟩

/-- Segments of at most 65535 bytes always have a prefix; longer ones panic. -/
theorem toLP_total (a : List UInt8) : (∃ p, toLP a = .ok p) ↔ a.length ≤ 65535 :=
  ⟨fun ⟨_, hp⟩ => (Prefix.toLP_ok hp).1, fun h => ⟨_, Prefix.toLP_of_le a h⟩⟩

/-! ### get / set / remove touch exactly the raw key `pfx ++ k` -/

theorem window_sorted (pfx : Key) (base : Store Val) (h : base.Sorted) : (window pfx base).Sorted :=
  Prefix.sorted_window h pfx

theorem get_exact (base : Store Val) (h : base.Sorted) (pfx k : Key) :
    View.get base pfx k = (window pfx base).get k := (Prefix.get_window base pfx k).symm

theorem set_exact (base : Store Val) (h : base.Sorted) (pfx k : Key) (v : Val) :
    window pfx (View.set base pfx k v) = (window pfx base).set k v ∧
    ∀ r, r ≠ pfx ++ k → (View.set base pfx k v).get r = base.get r :=
  ⟨Prefix.window_set h pfx k v, fun _ hr => Store.get_set_ne base v hr⟩

theorem remove_exact (base : Store Val) (h : base.Sorted) (pfx k : Key) :
    window pfx (View.remove base pfx k) = (window pfx base).remove k ∧
    ∀ r, r ≠ pfx ++ k → (View.remove base pfx k).get r = base.get r :=
  ⟨Prefix.window_remove base pfx k, fun _ hr => Store.get_remove_ne base hr⟩

/-! ### range -/

/-- The same-length upper bound of `namespace_upper_bound` lies strictly above every key that carries
the prefix, whenever the prefix has a byte that is not 0xFF. -/
theorem upper_bound_covers (pfx k : Key) (hne : allFF pfx = false) (hk : pfx <+: k) :
    pfx ≤ k ∧ k < namespaceUpperBound pfx := by
  obtain ⟨t, rfl⟩ := hk
  exact ⟨List.le_append_left, Prefix.append_lt_upperBound pfx t hne⟩

/-- Full strength: every prefix (including the empty one and prefixes ending in or consisting of
0xFF bytes), every base content (including foreign keys shorter than the prefix), all bounds, both
orders. -/
theorem range_exact (base : Store Val) (h : base.Sorted) (pfx : Key) (s e : Option Key) (o : Order) :
    View.range base pfx s e o = (window pfx base).range s e o := Prefix.range_exact base h pfx s e o

/-! ### non-vacuity -/

example : toLPNested [[102, 111], [111]] = .ok [0, 2, 102, 111, 0, 1, 111] := by decide
example : toLP [102, 111, 111] = .ok [0, 3, 102, 111, 111] := by decide
/-- the D1(b) shape: a short foreign key just above the namespace `f\xff\xff` -/
example : View.range [([0, 3, 102, 255, 255, 97], [1]), ([0, 3, 103], [2])] [0, 3, 102, 255, 255] none none .asc
    = [([97], [1])] := by decide
/-- the D1(a) shape: the empty path sees everything -/
example : View.range [([0], [1]), ([255, 255], [2])] [] none none .desc = [([255, 255], [2]), ([0], [1])] := by decide

end CwMt.C07
