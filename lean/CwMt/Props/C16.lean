import CwMt.Proofs.StakingExample
import CwMt.Proofs.StakingSlash
import CwMt.Proofs.StakingRewards
/-
  C16 — Slashing scales the slashed validator's stake and nothing else.
  The lemmas these theorems rest on live in CwMt/Proofs/Staking{Slash,Rewards}.lean, with `step_rejected` and the
  `slashQueue` lemmas from StakingInv, the sums (`le_stakeSum`, `scaledTotal_zero_rem`) from Staking and the `Dec` lemmas
  from StakingBasic.

  Readings (DESIGN.md section 7): R2 — the value that is scaled is the delegation's fractional value
  `stakeOf s d v` (18 digits), the Delegation query shows its floor. `remOf p = 1 − p`.
  `SInv` is the storage part of the C14 invariant (staker sets in step with the records), `LastLe` says that no reward
  calculation lies in the future; both hold in every reachable state (C14.no_panic).
-/
namespace CwMt.C16
open CwMt CwMt.Staking KMap

/-- Every delegation to `v` becomes exactly `mul(share, 1−p)` (floor at 10^-18) — unless the new validator total
`⌊Σ scaled shares⌋` is zero: then all delegations of `v` are dropped, and all of them together were worth less than
one token after scaling (so each of them, too): only sub-token remainders are lost. -/
theorem scales_down {c c' : Chain} {v : String} {p : Dec} (hi : SInv c.st) (h : sudoSlash c v p = .ok c') :
    (scaledTotal c.st.stakes v (remOf p) / Dec.ONE ≠ 0 →
        ∀ d, stakeOf c'.st d v = Dec.mul (stakeOf c.st d v) (remOf p)) ∧
    (scaledTotal c.st.stakes v (remOf p) / Dec.ONE = 0 →
        scaledTotal c.st.stakes v (remOf p) < Dec.ONE ∧
        ∀ d, stakeOf c'.st d v = Dec.zero ∧ (Dec.mul (stakeOf c.st d v) (remOf p)).atomics < Dec.ONE) := by
  have ef := sudoSlash_effect hi h
  refine ⟨ef.scaled, fun he => ?_⟩
  obtain ⟨hnone, hlt⟩ := ef.dropped he
  refine ⟨hlt, fun d => ⟨stakeOf_of_none (hnone d), ?_⟩⟩
  -- each scaled share is a summand of the scaled total
  cases hg : get? c.st.stakes (d, v) with
  | none => rw [stakeOf_of_none hg, Dec.zero_mul]; exact Dec.ONE_pos
  | some sh =>
    rw [stakeOf_of_get? hg]
    exact Nat.lt_of_le_of_lt (le_stakeSum (fun x => (Dec.mul x (remOf p)).atomics) hg) hlt

/-- Nothing increases: neither the record nor the shown value. -/
theorem never_increases {c c' : Chain} {v : String} {p : Dec} (hi : SInv c.st) (h : sudoSlash c v p = .ok c') (d : Addr) :
    stakeOf c'.st d v ≤ Dec.mul (stakeOf c.st d v) (remOf p) ∧ stakeOf c'.st d v ≤ stakeOf c.st d v ∧
    (stakeOf c'.st d v).floor ≤ (stakeOf c.st d v).floor := by
  have hle : Dec.mul (stakeOf c.st d v) (remOf p) ≤ stakeOf c.st d v := Dec.mul_le_left _ (remOf_le_one p)
  have h1 := (sudoSlash_effect hi h).stakeOf_le d
  exact ⟨h1, Nat.le_trans h1 hle, Nat.div_le_div_right (Nat.le_trans h1 hle)⟩

/-- The validator total becomes the whole tokens of the sum of the scaled shares, i.e. of the shares it now has. -/
theorem total_is_sum_of_shares {c c' : Chain} {v : String} {p : Dec} (hi : SInv c.st) (h : sudoSlash c v p = .ok c') :
    ∃ vi vi', get? c.st.vinfo v = some vi ∧ get? c'.st.vinfo v = some vi' ∧
      vi'.stake = scaledTotal c.st.stakes v (remOf p) / Dec.ONE ∧
      (vi'.stake ≠ 0 → (∀ d, stakeOf c'.st d v = Dec.mul (stakeOf c.st d v) (remOf p)) ∧
                        vi'.stake = shareSum c'.st.stakes v / Dec.ONE ∧ vi'.stakers = vi.stakers) ∧
      (vi'.stake = 0 → (∀ d, get? c'.st.stakes (d, v) = none) ∧ scaledTotal c.st.stakes v (remOf p) < Dec.ONE) :=
  (sudoSlash_effect hi h).total

/-- Pending unbondings from `v` become `⌊amount·(1−p)⌋`, those from other validators are untouched. -/
theorem unbondings_scaled {c c' : Chain} {v : String} {p : Dec} (hi : SInv c.st) (h : sudoSlash c v p = .ok c') :
    c'.st.queue = c.st.queue.map (fun u =>
      if u.validator = v then { u with amount := Dec.mulFloor u.amount (remOf p) } else u) :=
  (sudoSlash_effect hi h).queue

/-- Exact when whole: a whole delegation `n` whose scaled value `n·(1−p) = m` is whole becomes exactly `m` and is
whole again. -/
theorem exact_when_whole {c c' : Chain} {v : String} {p : Dec} (hi : SInv c.st)
    (h : sudoSlash c v p = .ok c') (d : Addr) (n m : Nat)
    (hn : stakeOf c.st d v = Dec.ofNat n) (hm : n * (remOf p).atomics = Dec.ONE * m) :
    stakeOf c'.st d v = Dec.ofNat m ∧ (stakeOf c'.st d v).floor = m := by
  have ex := scales_down hi h
  have hmul : Dec.mul (Dec.ofNat n) (remOf p) = Dec.ofNat m := Dec.mul_ofNat hm
  by_cases e : scaledTotal c.st.stakes v (remOf p) / Dec.ONE = 0
  · -- everything was dropped: the whole scaled value `m` is below one token, so it is 0
    obtain ⟨hz, hlt⟩ := (ex.2 e).2 d
    rw [hn, hmul] at hlt
    cases Dec.eq_zero_of_ofNat_lt_one hlt
    rw [hz]; exact ⟨rfl, Dec.floor_zero⟩
  · rw [ex.1 e d, hn, hmul]; exact ⟨rfl, Dec.floor_ofNat m⟩

/-- Frame: bank balances, withdraw addresses, every record and total of other validators are unchanged. -/
theorem frame {c c' : Chain} {v : String} {p : Dec} (hi : SInv c.st) (h : sudoSlash c v p = .ok c') :
    c'.bank = c.bank ∧ c'.st.withdraw = c.st.withdraw ∧
    (∀ k : Addr × String, k.2 ≠ v → get? c'.st.stakes k = get? c.st.stakes k) ∧
    (∀ w, w ≠ v → get? c'.st.vinfo w = get? c.st.vinfo w) := by
  have ef := sudoSlash_effect hi h
  exact ⟨ef.bank, ef.withdraw, ef.other_records, ef.other_validators⟩

/-- Frame, rewards: every delegation to `v` that remains shows the same pending reward as before the slash. -/
theorem frame_rewards {c c' : Chain} {v : String} {p : Dec} (hi : SInv c.st) (hl : LastLe c.st c.time)
    (h : sudoSlash c v p = .ok c') (d : Addr) (hrec : (get? c'.st.stakes (d, v)).isSome) :
    ∃ vo vi vi', c.st.validator? v = some vo ∧ get? c.st.vinfo v = some vi ∧ get? c'.st.vinfo v = some vi' ∧
      shownReward c'.st c'.time (curShares c'.st d v) vo vi' = shownReward c.st c.time (curShares c.st d v) vo vi := by
  obtain ⟨s1, sh1, vi1', vi', h1, hsh1, hvi1', hsh', hvi', hl'⟩ := sudoSlash_remaining hi h hrec
  obtain ⟨vi, vi1, vo, hvi, hvi1, hvo, hlast, hsame⟩ := shownReward_updateRewards hi hl h1 d
  cases hvi1.symm.trans hvi1'
  -- the slash keeps the accumulator and the time of the last calculation: both sides show the accumulator's floor
  refine ⟨vo, vi, vi', hvo, hvi, hvi', ?_⟩
  rw [← hsame, shownReward_uptodate _ _ _ _ _ hlast, (sudoSlash_effect hi h).time,
    shownReward_uptodate _ c.time _ _ _ (hl'.trans hlast), curShares_of_get? hsh1, curShares_of_get? hsh']

/-- `p = 1` removes every delegation to `v` and empties its pending unbondings. -/
theorem full_slash {c c' : Chain} {v : String} (hi : SInv c.st) (h : sudoSlash c v Dec.one = .ok c') :
    (∀ d, get? c'.st.stakes (d, v) = none) ∧ (∀ u ∈ c'.st.queue, u.validator = v → u.amount = 0) := by
  have ef := sudoSlash_effect hi h
  have hrem : (remOf Dec.one).atomics = 0 := Nat.sub_self _
  refine ⟨(ef.dropped (by rw [scaledTotal_zero_rem _ _ _ hrem]; rfl)).1, fun u hu hv => ?_⟩
  rw [ef.queue] at hu
  obtain ⟨u0, _, rfl⟩ := mem_slashQueue hu
  rw [if_pos hv, Dec.mulFloor_zero _ hrem]

/-- A fraction above one or an unknown validator is rejected, and the chain is unchanged. -/
theorem rejects {cfg : Cfg} {c : Chain} {v : String} {p : Dec} (hi : Inv cfg c)
    (hbad : Dec.one < p ∨ c.st.validator? v = none) : step cfg c (.slash v p) = (c, .err) :=
  step_rejected hi fun c' h => by
    have ef := sudoSlash_effect hi.sinv h
    rcases hbad with hb | hb
    · exact Nat.not_lt.mpr ef.pct_le hb
    · obtain ⟨vo, hvo⟩ := ef.known; rw [hb] at hvo; cases hvo

/-- The above compose over any number of slashes. -/
theorem repeated {cfg : Cfg} {v : String} (ps : List Dec) (c c' : Chain) (hi : Inv cfg c)
    (h : slashAll c v ps = .ok c') :
    Inv cfg c' ∧ c'.bank = c.bank ∧ c'.st.withdraw = c.st.withdraw ∧
    (∀ k : Addr × String, k.2 ≠ v → get? c'.st.stakes k = get? c.st.stakes k) ∧
    (∀ w, w ≠ v → get? c'.st.vinfo w = get? c.st.vinfo w) ∧
    (∀ d, stakeOf c'.st d v ≤ stakeOf c.st d v) ∧
    c'.st.queue.length = c.st.queue.length := by
  have e := slashAll_effect ps hi h
  exact ⟨e.inv, e.bank, e.withdraw, e.other_records, e.other_validators, e.stake_le, e.queue_length⟩

/-- 3 →(½) 1.5 →(⅓-ish) 1.000000000000000000: the value scaled is the fractional one (R2) -/
example : (stakeOf (runAll exCfg exChain [.delegate "d1" "v1" ⟨"TOKEN", 3⟩, .delegate "d2" "v1" ⟨"TOKEN", 3⟩,
    .slash "v1" ⟨500000000000000000⟩, .slash "v1" ⟨333333333333333333⟩]).1.st "d1" "v1").atomics
    = 1000000000000000000 := by decide +kernel
/-- the same two slashes on a single delegator (wiped before the fix of `slash`): exactly 1.0 token remains -/
example : (stakeOf (runAll exCfg exChain [.delegate "d1" "v1" ⟨"TOKEN", 3⟩, .slash "v1" ⟨500000000000000000⟩,
    .slash "v1" ⟨333333333333333333⟩]).1.st "d1" "v1").atomics = 1000000000000000000 := by decide
/-- three slashes of 10^-18 on 3 tokens (wiped a 2.99…-token delegation before the fix): 2.999999999999999991 remain -/
example : (stakeOf (runAll exCfg exChain [.delegate "d1" "v1" ⟨"TOKEN", 3⟩, .slash "v1" ⟨1⟩, .slash "v1" ⟨1⟩,
    .slash "v1" ⟨1⟩]).1.st "d1" "v1").atomics = 2999999999999999991 := by decide
/-- the zero-total case: one token slashed by 10 % is worth 0.9 < 1 token and is dropped -/
example : (runAll exCfg exChain [.delegate "d1" "v1" ⟨"TOKEN", 1⟩, .slash "v1" ⟨100000000000000000⟩]).1.st.stakes = [] := by
  decide
example : (step exCfg exChain (.slash "v1" ⟨1000000000000000001⟩)).2 = .err := by decide
example : (step exCfg exChain (.slash "v9" ⟨1⟩)).2 = .err := by decide
example : (runAll exCfg exChain [.delegate "d1" "v1" ⟨"TOKEN", 4⟩, .slash "v1" Dec.one]).1.st.stakes = [] := by decide
/-- whole case: 4 →(25 %) exactly 3 -/
example : (stakeOf (runAll exCfg exChain [.delegate "d1" "v1" ⟨"TOKEN", 4⟩, .slash "v1" ⟨250000000000000000⟩]).1.st
    "d1" "v1") = Dec.ofNat 3 := by decide

end CwMt.C16
