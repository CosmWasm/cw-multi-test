import CwMt.Proofs.Bech32
import CwMt.Proofs.Address
/-
  C18 — Address helpers are total, consistent and reject foreign or malformed input.
  Property theorems only; helper lemmas live in CwMt/Proofs/Bech32.lean and the CwMt/Proofs/Bech32_*.lean it imports.

  Model: CwMt/Model/Bech32.lean. `Variant` selects the codec: `.bech32` = `MockApiBech32`,
  `.bech32m` = `MockApiBech32m` (src/api.rs), `.default` = cosmwasm-std's `MockApi` with a prefix
  (what `IntoAddr` in src/addresses.rs uses). Strings are `List Char`, SHA-256 is an arbitrary
  function `H`. `ValidPrefix p` is reading R4: `p` passes `Hrp::parse` and contains no uppercase
  letter. `strictDecode v p s = some bs` is strict decoding written without the encoder: prefix `p`,
  last `'1'` as separator, lowercase charset data, code length, correct checksum for the variant,
  fewer than five padding bits and all of them zero (for `.default` also 1..=255 bytes).
  `lengthOk v n` is the canonical-length check of the codec (`true` for MockApiBech, 1..=255 for the
  default MockApi); `codeLength` = 1023.

  All theorems hold for all three codecs, every valid prefix, every length and every position.
-/
namespace CwMt.C18
open CwMt CwMt.Bech32

/-! ### round trip -/

/-- bytes → address → bytes, for every byte string the code length allows -/
theorem roundtrip (v : Variant) (p : List Char) (bs : List UInt8) (hp : ValidPrefix p)
    (hl : lengthOk v bs.length = true)
    (hc : p.length + 1 + (8 * bs.length + 4) / 5 + 6 ≤ codeLength) :
    ∃ s, addrHumanize v p bs = .ok s ∧ addrCanonicalize v p s = .ok bs := by
  obtain ⟨s, hs⟩ := encode_succeeds (constOf v) hc
  exact ⟨s, addrHumanize_ok_iff.mpr ⟨hl, hp.1, hs⟩, addrCanonicalize_of_encode hp hl hs⟩

/-- in particular for every canonical address of 1..=64 (indeed 1..=255) bytes -/
theorem roundtrip_canonical_lengths (v : Variant) (p : List Char) (bs : List UInt8)
    (hp : ValidPrefix p) (h1 : 1 ≤ bs.length) (h2 : bs.length ≤ 255) :
    ∃ s, addrHumanize v p bs = .ok s ∧ addrCanonicalize v p s = .ok bs :=
  roundtrip v p bs hp (lengthOk_of_le v h1 h2) (le_codeLength_of_hrpValid hp.1 h2)

/-- address → bytes → address, for everything validation accepts -/
theorem roundtrip_string (v : Variant) (p s : List Char) (hp : ValidPrefix p)
    (h : addrValidate v p s = .ok s) :
    ∃ bs, addrCanonicalize v p s = .ok bs ∧ addrHumanize v p bs = .ok s := by
  obtain ⟨bs, h1, h2, -⟩ := addrValidate_ok_iff.mp h
  exact ⟨bs, h1, h2⟩

/-- the regrouping lemma behind it (`regroup_8_5_8`) -/
theorem regroup_8_5_8 (bs : List UInt8) : fesToBytes (bytesToFes bs) = bs :=
  Bech32.fesToBytes_bytesToFes bs

/-- data followed by its checksum has the target residue (`checksum_verifies`) -/
theorem checksum_verifies (k : BitVec 30) (h : List Char) (data : List Sym) :
    polymod (hrpExpand h ++ (data ++ createChecksum k h data)) = k :=
  Bech32.checksum_verifies k h data

/-! ### validation = strict decoding, result unchanged -/

theorem validate_exact (v : Variant) (p s s' : List Char) (hp : ValidPrefix p) :
    addrValidate v p s = .ok s' ↔ (∃ bs, strictDecode v p s = some bs) ∧ s' = s :=
  Bech32.validate_exact v p s s' hp

/-- strict decoding is the inverse of encoding (so the specification is not weaker than needed) -/
theorem strictDecode_iff_humanize (v : Variant) (p s : List Char) (bs : List UInt8)
    (hp : ValidPrefix p) :
    strictDecode v p s = some bs ↔ lengthOk v bs.length = true ∧ encode (constOf v) p bs = some s :=
  Bech32.strictDecode_iff_encode hp

theorem humanize_validates (v : Variant) (p : List Char) (bs : List UInt8) (s : List Char)
    (hp : ValidPrefix p) (h : addrHumanize v p bs = .ok s) : addrValidate v p s = .ok s := by
  obtain ⟨h1, -, h3⟩ := addrHumanize_ok_iff.mp h
  exact (addrValidate_iff_encode hp).mpr ⟨bs, h1, h3, rfl⟩

/-- a prefix that `Hrp::parse` rejects validates nothing -/
theorem validate_invalid_hrp (v : Variant) (p s s' : List Char) (hp : hrpValid p = false) :
    addrValidate v p s ≠ .ok s' := by
  intro h
  obtain ⟨bs, -, hh, -⟩ := addrValidate_ok_iff.mp h
  rw [(addrHumanize_ok_iff.mp hh).2.1] at hp; cases hp

/-! ### totality: no entry point panics, whatever the input and the prefix -/

theorem validate_total (v : Variant) (p s : List Char) :
    addrValidate v p s = .ok s ∨ addrValidate v p s = .err := by
  rcases (addrValidate_safe v p s).ok_or_err with ⟨s', h⟩ | h
  · obtain ⟨_, -, -, rfl⟩ := addrValidate_ok_iff.mp h
    exact .inl h
  · exact .inr h

theorem canonicalize_total (v : Variant) (p s : List Char) :
    (∃ bs, addrCanonicalize v p s = .ok bs) ∨ addrCanonicalize v p s = .err :=
  (addrCanonicalize_safe v p s).ok_or_err

theorem humanize_total (v : Variant) (p : List Char) (bs : List UInt8) :
    (∃ s, addrHumanize v p bs = .ok s) ∨ addrHumanize v p bs = .err :=
  (addrHumanize_safe v p bs).ok_or_err

/-! ### rejection -/

/-- another prefix -/
theorem rejects_other_prefix (v : Variant) (p q s : List Char) (bs : List UInt8)
    (hp : ValidPrefix p) (hq : ValidPrefix q) (hne : p ≠ q)
    (h : addrCanonicalize v p s = .ok bs) :
    addrCanonicalize v q s = .err ∧ addrValidate v q s = .err := by
  refine rejected_of_addrCanonicalize_ne_ok fun bs' h' => hne ?_
  have := (addrCanonicalize_ok_agree h h').1
  rwa [lower_eq_self hp.2, lower_eq_self hq.2] at this

/-- the other checksum variant (any prefixes) -/
theorem rejects_other_variant (v w : Variant) (p q s : List Char) (bs : List UInt8)
    (hne : constOf v ≠ constOf w) (h : addrCanonicalize v p s = .ok bs) :
    addrCanonicalize w q s = .err ∧ addrValidate w q s = .err :=
  rejected_of_addrCanonicalize_ne_ok fun _ h' => hne (addrCanonicalize_ok_agree h h').2

theorem variants_differ : constOf .bech32 ≠ constOf .bech32m ∧ constOf .default ≠ constOf .bech32m :=
  ⟨by decide, by decide⟩

/-- mixed case (any prefix) -/
theorem rejects_mixed_case (v : Variant) (p s : List Char) (hu : hasUpper s = true)
    (hl : hasLower s = true) :
    addrCanonicalize v p s = .err ∧ addrValidate v p s = .err := by
  refine rejected_of_addrCanonicalize_ne_ok fun bs h => ?_
  obtain ⟨h1, pl, hd, -⟩ := addrCanonicalize_ok_iff.mp h
  obtain ⟨_, _, _, _, _, hm, -⟩ := decodeChecked_eq_some_iff.mp hd
  exact hm ⟨hu, hl⟩

/-- the checksum fact underneath: changing exactly one symbol changes the residue -/
theorem single_symbol_error (S : BitVec 30) (pre post : List Sym) (a b : Sym) (hab : a ≠ b) :
    steps S (pre ++ a :: post) ≠ steps S (pre ++ b :: post) := by
  intro h
  rw [steps_append, steps_append, steps_cons, steps_cons] at h
  exact hab (step_inj_sym (steps_inj_state h))

/-- the decoder itself (`addr_canonicalize`, which is case-insensitive) rejects every substitution
that is not a mere change of ASCII case of that character -/
theorem single_error_detected_canonicalize (v : Variant) (p pre post : List Char) (a c : Char)
    (hp : ValidPrefix p) (hvalid : addrValidate v p (pre ++ a :: post) = .ok (pre ++ a :: post))
    (hc : c.toLower ≠ a) : addrCanonicalize v p (pre ++ c :: post) = .err := by
  refine (rejected_of_addrCanonicalize_ne_ok fun bs' h' => ?_).1
  -- both strings, lowercased, are the prefix, the separator and symbols with the residue of `v`
  obtain ⟨bs, hc1, hh, -⟩ := addrValidate_ok_iff.mp hvalid
  have hu := encode_no_upper (addrHumanize_ok_iff.mp hh).2.2
  obtain ⟨D, hD, hpoly⟩ := addrCanonicalize_ok_lower hc1
  obtain ⟨E, hE, hpoly'⟩ := addrCanonicalize_ok_lower h'
  have ha : a.toLower = a := lower_mem_of_not_upper _ hu a (by simp)
  rw [lower_append, lower_cons, ha] at hD
  rw [lower_append, lower_cons] at hE
  -- so the changed character lies in the data part, where it changes exactly one symbol
  obtain ⟨t, hDt, hEt⟩ := append_cons_diff (Ne.symm hc) (hD.trans (List.append_assoc (lower p) ['1'] _).symm)
    (hE.trans (List.append_assoc (lower p) ['1'] _).symm)
  obtain ⟨D1, _, rfl, h1, h2⟩ := List.map_eq_append_iff.mp hDt
  obtain ⟨y, D2, rfl, hy, h3⟩ := List.map_eq_cons_iff.mp h2
  obtain ⟨E1, _, rfl, h1', h2'⟩ := List.map_eq_append_iff.mp hEt
  obtain ⟨x, E2, rfl, hx, h3'⟩ := List.map_eq_cons_iff.mp h2'
  obtain rfl := map_charOf_inj (h1'.trans h1.symm)
  obtain rfl := map_charOf_inj (h3'.trans h3.symm)
  refine single_symbol_error (steps 1 (hrpExpand p)) E1 E2 x y (fun e => hc (by rw [← hx, e, hy])) ?_
  rw [← steps_append, ← steps_append, ← polymod_eq_steps, ← polymod_eq_steps, hpoly, hpoly']

/-- every single-character substitution of a valid address is rejected: every position (prefix,
separator, data, checksum), every substitute character, every length -/
theorem single_error_detected (v : Variant) (p s : List Char) (i : Nat) (c : Char)
    (hi : i < s.length) (hp : ValidPrefix p) (hvalid : addrValidate v p s = .ok s)
    (hc : c ≠ s[i]) : addrValidate v p (s.set i c) = .err := by
  have hs : s = s.take i ++ s[i] :: s.drop (i + 1) := by
    rw [List.getElem_cons_drop, List.take_append_drop]
  rw [List.set_eq_take_append_cons_drop, if_pos hi]
  by_cases hcl : c.toLower = s[i]
  · -- a pure case flip: `c` is an uppercase letter, and validation only returns lowercase strings
    refine (validate_total v p _).resolve_left fun h => hc ?_
    obtain ⟨bs, -, hh, -⟩ := addrValidate_ok_iff.mp h
    have hu := encode_no_upper (addrHumanize_ok_iff.mp hh).2.2
    rw [← hcl, lower_mem_of_not_upper _ hu c (by simp)]
  · exact addrValidate_of_addrCanonicalize_err
      (single_error_detected_canonicalize v p _ _ s[i] c hp (by rw [← hs]; exact hvalid) hcl)

/-! ### addresses made from names -/

/-- `addr_make p n` is `addr_humanize p (H n)`; it depends on the name only through its digest
(deterministic), and a panic is the only other outcome -/
theorem addr_make_eq_humanize (H : List UInt8 → List UInt8) (v : Variant) (p : List Char)
    (n : List UInt8) (a : List Char) (hl : lengthOk v (H n).length = true) :
    addrMake H v p n = .ok a ↔ addrHumanize v p (H n) = .ok a := by
  rw [addrMake_ok_iff, addrHumanize_ok_iff]
  simp [hl]

theorem addr_make_deterministic (H : List UInt8 → List UInt8) (v : Variant) (p : List Char)
    (n n' : List UInt8) (h : H n = H n') : addrMake H v p n = addrMake H v p n' := by
  delta addrMake; rw [h]

/-- total for 32-byte digests and every HRP; a panic exactly for prefixes `Hrp::parse` rejects -/
theorem addr_make_total (H : List UInt8 → List UInt8) (v : Variant) (p : List Char) (n : List UInt8)
    (hp : hrpValid p = true) (h32 : (H n).length = 32) : ∃ a, addrMake H v p n = .ok a := by
  obtain ⟨a, ha⟩ := encode_succeeds (constOf v) (bs := H n)
    (by rw [h32]; exact le_codeLength_of_hrpValid hp (n := 32) (by decide))
  exact ⟨a, addrMake_ok_iff.mpr ⟨hp, ha⟩⟩

theorem addr_make_panics (H : List UInt8 → List UInt8) (v : Variant) (p : List Char) (n : List UInt8)
    (hp : hrpValid p = false) : addrMake H v p n = .panic := by
  rcases make_ok_or_panic H v p n with ⟨a, ha⟩ | h
  · rw [(addrMake_ok_iff.mp ha).1] at hp; cases hp
  · exact h

/-- valid under its own codec -/
theorem addr_make_valid (H : List UInt8 → List UInt8) (v : Variant) (p : List Char) (n : List UInt8)
    (a : List Char) (hp : ValidPrefix p) (hl : lengthOk v (H n).length = true)
    (h : addrMake H v p n = .ok a) : addrValidate v p a = .ok a :=
  (addrValidate_iff_encode hp).mpr ⟨H n, hl, (addrMake_ok_iff.mp h).2, rfl⟩

/-- equal addresses ⇒ equal prefixes, equal digests, equal checksum constant; i.e. different
prefixes, or names with different digests, or different checksum variants give different addresses
(that different names have different digests is the SHA-256 assumption) -/
theorem addr_make_injective (H : List UInt8 → List UInt8) (v w : Variant) (p p' : List Char)
    (n n' : List UInt8) (a : List Char) (hp : ValidPrefix p) (hp' : ValidPrefix p')
    (h : addrMake H v p n = .ok a) (h' : addrMake H w p' n' = .ok a) :
    p = p' ∧ H n = H n' ∧ constOf v = constOf w := by
  have := encode_inj (addrMake_ok_iff.mp h).2 (addrMake_ok_iff.mp h').2
  rwa [lower_eq_self hp.2, lower_eq_self hp'.2] at this

/-- `addr_humanize` is injective too -/
theorem humanize_injective (v : Variant) (p : List Char) (bs bs' : List UInt8) (a : List Char)
    (h : addrHumanize v p bs = .ok a) (h' : addrHumanize v p bs' = .ok a) : bs = bs' :=
  (encode_inj (addrHumanize_ok_iff.mp h).2.2 (addrHumanize_ok_iff.mp h').2.2).2.1

/-! ### non-vacuity: the hypotheses are satisfiable (kernel evaluation of the model) -/

def juno : List Char := ['j', 'u', 'n', 'o']
def osmo : List Char := ['o', 's', 'm', 'o']
/-- `juno1w50qgvnry9` = Bech32 of bytes 75 1e -/
def addrB : List Char := ['j','u','n','o','1','w','5','0','q','g','v','n','r','y','9']
/-- `juno1w50qasr0p8` = Bech32m of the same bytes -/
def addrM : List Char := ['j','u','n','o','1','w','5','0','q','a','s','r','0','p','8']
/-- `juno1w50p468keh`: valid Bech32 checksum, last data symbol with a non-zero padding bit (D5) -/
def addrPad : List Char := ['j','u','n','o','1','w','5','0','p','4','6','8','k','e','h']

/-- `DEFAULT_PREFIX` of src/addresses.rs and of cosmwasm-std's `MockApi` -/
def cosmwasm : List Char := ['c', 'o', 's', 'm', 'w', 'a', 's', 'm']

set_option maxRecDepth 100000 in
example : ValidPrefix juno ∧ ValidPrefix osmo ∧ ValidPrefix cosmwasm ∧ juno ≠ osmo := by decide +kernel
set_option maxRecDepth 100000 in
example : addrHumanize .bech32 juno [0x75, 0x1e] = .ok addrB
    ∧ addrCanonicalize .bech32 juno addrB = .ok [0x75, 0x1e]
    ∧ addrValidate .bech32 juno addrB = .ok addrB
    ∧ strictDecode .bech32 juno addrB = some [0x75, 0x1e] := by decide +kernel
set_option maxRecDepth 100000 in
example : addrHumanize .bech32m juno [0x75, 0x1e] = .ok addrM
    ∧ addrValidate .bech32m juno addrM = .ok addrM
    ∧ addrValidate .default juno addrB = .ok addrB := by decide +kernel
set_option maxRecDepth 100000 in
/-- the decoder is lenient about padding, validation is not -/
example : addrCanonicalize .bech32 juno addrPad = .ok [0x75, 0x1e]
    ∧ addrValidate .bech32 juno addrPad = .err
    ∧ strictDecode .bech32 juno addrPad = none := by decide +kernel
set_option maxRecDepth 100000 in
example : hasUpper (addrB.set 5 'W') = true ∧ hasLower (addrB.set 5 'W') = true
    ∧ addrValidate .bech32 juno (addrB.set 5 'W') = .err
    ∧ addrValidate .bech32 juno (addrB.set 5 'q') = .err
    ∧ addrValidate .bech32 osmo addrB = .err
    ∧ addrValidate .bech32m juno addrB = .err := by decide +kernel
set_option maxRecDepth 100000 in
example : addrMake (fun _ => [0x75, 0x1e]) .bech32 juno [] = .ok addrB
    ∧ addrMake (fun _ => [0x75, 0x1e]) .bech32 ['J', 'u'] [] = .panic := by decide +kernel

/-! ### with the real hash

`CwMt/Model/Sha256.lean` is SHA-256 itself (the wasm driver recomputes every address the implementation declares
with it), so the statements about `addr_make` hold for the function the code runs, not only for a parameter `H`. -/

/-- `addr_make` is total for every valid prefix: a digest is 32 bytes -/
theorem addr_make_sha256_total (v : Variant) (p : List Char) (name : String) (hp : hrpValid p = true) :
    ∃ a, Address.make v p name = .ok a :=
  addr_make_total Sha256.digest v p _ hp (Sha256.digest_length _)

/-- … and the address validates under its own codec, unchanged -/
theorem addr_make_sha256_valid (v : Variant) (p : List Char) (name : String) (a : List Char)
    (hp : ValidPrefix p) (h : Address.make v p name = .ok a) : addrValidate v p a = .ok a :=
  addr_make_valid Sha256.digest v p _ a hp (Sha256.digest_length _ ▸ lengthOk_32 v) h

/-- the classic contract address and the default checksum are derived from 32-byte digests: humanizing them is
total for every valid prefix -/
theorem classic_address_total (v : Variant) (p : List Char) (codeId instanceId : Nat) (hp : ValidPrefix p) :
    ∃ a, Address.classicAddr v p codeId instanceId = .ok a ∧ addrValidate v p a = .ok a := by
  obtain ⟨a, ha, -⟩ := roundtrip_canonical_lengths v p (Address.classicCanonical codeId instanceId) hp
    (by rw [Address.classicCanonical_length]; decide) (by rw [Address.classicCanonical_length]; decide)
  exact ⟨a, ha, humanize_validates v p _ a hp ha⟩

end CwMt.C18
