import CwMt.Proofs.Route
import CwMt.Gen.Builder
import CwMt.Gen.Wrapper
/-
  C20 — Builders keep every configured component regardless of call order.
  Instances of the generic lemmas of CwMt/Proofs/Route.lean plus kernel evaluation of the generated tables.
  The tables `Gen.Builder.steps`, `Gen.Builder.build`, `Gen.Wrapper.steps` are regenerated from
  /repo/src/app_builder.rs, /repo/src/app.rs (`init_modules`) and /repo/src/contracts.rs by
  checklib/tr_builder.py on every run (tie T). Semantics (CwMt/Model/Route.lean): a builder method
  evaluates every field of its rebuilt struct literal in the old state (`kept` = same field of `self`,
  `param i` = the method's i-th argument, `reset e` = the constant `e`, `moved g` = another field);
  a builder run is a left fold of steps; `runBuild` executes the statements of `build`.
  `α` is the type of supplied components and is arbitrary throughout.
-/
namespace CwMt.C20
open CwMt.Route CwMt.Gen

/-- Every `with_*` step sets exactly its own field from its single parameter and keeps the ten others. -/
theorem builder_frame : frameOk BField.all BStep.target BStep.withSteps Builder.steps = true := by decide +kernel

/-- The table has one row per method of the model's vocabulary and nothing else. -/
theorem builder_table_exact :
    (Builder.steps.map Prod.fst).Nodup ∧ BStep.other ∉ Builder.steps.map Prod.fst ∧
    ∀ st ∈ BStep.new :: BStep.new_custom :: BStep.withSteps, st ∈ Builder.steps.map Prod.fst := by decide +kernel

/-- `new` / `new_custom` write a constant (the default component) into each of the eleven fields. -/
theorem builder_defaults {α : Type} (ctor : BStep) (hc : ctor ∈ [BStep.new, .new_custom]) (args : Nat → CVal α)
    (f : BField) (hf : f ∈ BField.all) : (construct Builder.steps ctor args f).isConst = true := by
  -- the 2 × 11 cells are evaluated in one go; `args` stays a variable, no cell looks at it
  have h : ([BStep.new, .new_custom].all fun c => BField.all.all fun f => (construct Builder.steps c args f).isConst) = true :=
    rfl
  exact List.all_eq_true.mp (List.all_eq_true.mp h ctor hc) f hf

/-- **Any subset, any order, repetitions**: after any list of `with_*` steps every component of the
builder is the value supplied by the last step for it, or what the constructor put there. -/
theorem builder_any_order {α : Type} (init : BField → CVal α) (l : List (BStep × α))
    (hl : ∀ p ∈ l, p.1 ∈ BStep.withSteps) (f : BField) (hf : f ∈ BField.all) :
    runSteps Builder.steps init l f =
      match lastFor BStep.target f l with
      | some a => .supplied a
      | none => init f :=
  runSteps_spec builder_frame l hl init hf

example : ∀ p ∈ [(BStep.with_gov, 1), (BStep.with_bank, 2), (BStep.with_gov, 3)], p.1 ∈ BStep.withSteps := by decide

/-- Hence all orders of the same steps give the same builder (no two steps for the same component). -/
theorem builder_permutations_agree {α : Type} (init : BField → CVal α) (l₁ l₂ : List (BStep × α)) (hp : l₁.Perm l₂)
    (hl : ∀ p ∈ l₁, p.1 ∈ BStep.withSteps) (hnd : (l₁.map (fun p => BStep.target p.1)).Nodup)
    (f : BField) (hf : f ∈ BField.all) :
    runSteps Builder.steps init l₁ f = runSteps Builder.steps init l₂ f :=
  runSteps_perm builder_frame hp hl hnd init hf

example : ([(BStep.with_gov, 1), (BStep.with_bank, 2)] : List (BStep × Nat)).Perm [(BStep.with_bank, 2), (BStep.with_gov, 1)] ∧
    (([(BStep.with_gov, 1), (BStep.with_bank, 2)] : List (BStep × Nat)).map (fun p => BStep.target p.1)).Nodup :=
  ⟨List.Perm.swap _ _ _, by decide⟩

/-- `build` moves every builder field into the same-named `App` / `Router` field, runs the init
function exactly once, after the `App` exists, on the `App`'s own router, api and storage, and returns
that `App`. -/
theorem build_moves_all_and_inits_once {α : Type} (b : BField → CVal α) :
    ∃ app, runBuild Builder.build b = some app ∧
      (∀ f ∈ BField.all, app.comp f = b f) ∧ app.inits = [b .storage] ∧
      Builder.build.routerFields = [.wasm, .bank, .custom, .staking, .distribution, .ibc, .gov, .stargate] := by
  refine ⟨⟨buildComp Builder.build b, [buildComp Builder.build b .storage]⟩, rfl, ?_, rfl, rfl⟩
  -- the eleven fields are evaluated in one go: the literal and `b` agree as maps over `BField.all`
  exact List.map_inj_left.mp (rfl : BField.all.map (buildComp Builder.build b) = BField.all.map b)

/-- The whole pipeline: constructor, any steps, `build`: the application has, per component, the last
supplied value or the constructor's default, and the init function ran once on the supplied (or
default) storage. -/
theorem built_app_any_order {α : Type} (ctor : BStep) (args : Nat → CVal α) (l : List (BStep × α))
    (hl : ∀ p ∈ l, p.1 ∈ BStep.withSteps) :
    ∃ app, runBuild Builder.build (runSteps Builder.steps (construct Builder.steps ctor args) l) = some app ∧
      (∀ f ∈ BField.all, app.comp f =
        match lastFor BStep.target f l with
        | some a => .supplied a
        | none => construct Builder.steps ctor args f) ∧
      app.inits = [app.comp .storage] := by
  obtain ⟨app, h₁, h₂, h₃, _⟩ := build_moves_all_and_inits_once (runSteps Builder.steps (construct Builder.steps ctor args) l)
  refine ⟨app, h₁, fun f hf => ?_, ?_⟩
  · rw [h₂ f hf]; exact builder_any_order _ l hl f hf
  · rw [h₃, h₂ .storage (by decide)]

/-- Every `with_*` of the wrapper sets exactly its own slot from its parameter and keeps the six other
fields — in particular the checksum (full strength since the D6 fix); both constructors take the
three mandatory entry points from their parameters and write constants into the four optional slots. -/
theorem wrapper_frame :
    frameOk WField.all WStep.target WStep.withSteps Wrapper.steps = true ∧
    (∀ c ∈ [WStep.new, .new_with_empty], ∃ r, Wrapper.steps.lookup c = some r ∧ ctorOk r = true) ∧
    (Wrapper.steps.map Prod.fst).Nodup ∧ WStep.other ∉ Wrapper.steps.map Prod.fst := by
  refine ⟨by decide +kernel, ?_, by decide +kernel, by decide +kernel⟩
  intro c hc
  simp only [List.mem_cons, List.not_mem_nil, or_false] at hc
  rcases hc with rfl | rfl <;> exact ⟨_, rfl, by decide⟩

/-- **Any order, repetitions**: a wrapper made by `new` / `new_with_empty` from entry points `e i q`
followed by any list of `with_*` steps still has `e i q`, and each of sudo / reply / migrate /
checksum is the last value supplied for it, or `None`. -/
theorem wrapper_any_order {α : Type} (ctor : WStep) (hc : ctor ∈ [WStep.new, .new_with_empty]) (e i q : α)
    (l : List (WStep × α)) (hl : ∀ p ∈ l, p.1 ∈ WStep.withSteps) :
    let args : Nat → CVal α := fun n => match n with | 0 => .supplied e | 1 => .supplied i | 2 => .supplied q | _ => .undef
    let w := runSteps Wrapper.steps (construct Wrapper.steps ctor args) l
    w .execute_fn = .supplied e ∧ w .instantiate_fn = .supplied i ∧ w .query_fn = .supplied q ∧
    ∀ f ∈ [WField.sudo_fn, .reply_fn, .migrate_fn, .checksum],
      w f = match lastFor WStep.target f l with
        | some a => .supplied a
        | none => .const "None" := by
  intro args w
  simp only [List.mem_cons, List.not_mem_nil, or_false] at hc
  -- no `with_*` step is for one of the three mandatory entry points: they are as the constructor left them
  have keep : ∀ f ∈ [WField.execute_fn, .instantiate_fn, .query_fn], w f = construct Wrapper.steps ctor args f :=
    fun f hf => runSteps_of_no_step wrapper_frame.1 l hl _ (by revert f; decide) (by revert f; decide)
  refine ⟨?_, ?_, ?_, fun f hf => ?_⟩
  · rw [keep _ (by decide)]; rcases hc with rfl | rfl <;> rfl
  · rw [keep _ (by decide)]; rcases hc with rfl | rfl <;> rfl
  · rw [keep _ (by decide)]; rcases hc with rfl | rfl <;> rfl
  · rw [show w f = _ from runSteps_spec wrapper_frame.1 l hl _
      ((by decide : ∀ f ∈ [WField.sudo_fn, .reply_fn, .migrate_fn, .checksum], f ∈ WField.all) f hf)]
    simp only [List.mem_cons, List.not_mem_nil, or_false] at hf
    rcases hc with rfl | rfl <;> rcases hf with rfl | rfl | rfl | rfl <;> rfl

example : (WStep.new ∈ [WStep.new, .new_with_empty]) ∧
    ∀ p ∈ [(WStep.with_checksum, 1), (WStep.with_reply, 2), (WStep.with_sudo_empty, 3)], p.1 ∈ WStep.withSteps := by decide

/-- All orders of the same wrapper steps agree (no two steps for the same slot). -/
theorem wrapper_permutations_agree {α : Type} (init : WField → CVal α) (l₁ l₂ : List (WStep × α)) (hp : l₁.Perm l₂)
    (hl : ∀ p ∈ l₁, p.1 ∈ WStep.withSteps) (hnd : (l₁.map (fun p => WStep.target p.1)).Nodup)
    (f : WField) (hf : f ∈ WField.all) :
    runSteps Wrapper.steps init l₁ f = runSteps Wrapper.steps init l₂ f :=
  runSteps_perm wrapper_frame.1 hp hl hnd init hf

/-- The instance of the property text: a checksum set before `with_reply` survives it. -/
theorem checksum_survives_reply {α : Type} (e i q c r : α) :
    let args : Nat → CVal α := fun n => match n with | 0 => .supplied e | 1 => .supplied i | 2 => .supplied q | _ => .undef
    runSteps Wrapper.steps (construct Wrapper.steps .new args) [(.with_checksum, c), (.with_reply, r)] .checksum = .supplied c := rfl

end CwMt.C20
