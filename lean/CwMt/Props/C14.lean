import CwMt.Proofs.StakingExample
import CwMt.Proofs.StakingOps
import CwMt.Proofs.StakingSlash
import CwMt.Proofs.StakingRewards
/-
  C14 — Delegations, unbonding and payouts account for every staked token.
  The lemmas these theorems rest on live in CwMt/Proofs/Staking.lean and CwMt/Proofs/Staking{Basic,Prim,Bank,Inv,Ops,Slash,Rewards}.lean.

  Model: CwMt/Model/Staking.lean (`Staking.step`, `Op`, `Chain`), bank CwMt/Model/Bank.lean.
  `Inv cfg c` is the invariant of the machine: (I1) every staker of a validator has a record, (I2) every record's
  owner is in the staker set, (I3) the unbonding queue is sorted by payout time, (I4) the pool balance covers all
  validator totals plus all queued amounts, (I5) a validator's total is at least the whole tokens of the sum of the shares
  of its records (after a slash it is exactly that; delegate / undelegate / redelegate move both sides by the same whole
  amount; block updates only drop records that show 0); side conditions: commissions ≤ 1, no reward calculation in the future
  (monotone time), the pool account itself never undelegated, every stored balance reads as the sum of its entries.
  `Op.okFor cfg op` = "nobody signs as the pool account". `stakeOf s d v` is the delegation's fractional value
  (0 without record); the Delegation query shows `(stakeOf s d v).floor`.
-/
namespace CwMt.C14
open CwMt CwMt.Staking

/-- Every set-up chain (any parameters, validators with commissions ≤ 1, normalised bank) satisfies `Inv`. -/
theorem inv_setup (cfg : Cfg) (info : StakingInfo) (vals : List Validator) (bank : Bank.State) (t h : Nat)
    (hc : ∀ vo ∈ vals, vo.commission.atomics ≤ Dec.ONE) (hwf : BankFacts.WF bank) :
    Inv cfg (freshChain info vals bank t h) := Inv_freshChain cfg info vals bank t h hc hwf

/-- `Inv` is inductive: every operation and every block update preserves it. -/
theorem inv_preserved {cfg : Cfg} {c : Chain} {op : Op} (hi : Inv cfg c) (hop : op.okFor cfg) :
    Inv cfg (step cfg c op).1 := Inv_step hi hop

/-- Full strength: from any state satisfying `Inv`, no history of delegate / undelegate / redelegate / withdraw /
set-withdraw-address / slash operations and block updates makes any call panic (this includes the `unwrap` of
`process_queue` in block updates), and `Inv` holds at the end. -/
theorem no_panic {cfg : Cfg} (ops : List Op) (c : Chain) (hi : Inv cfg c) (hok : ∀ op ∈ ops, op.okFor cfg) :
    Inv cfg (runAll cfg c ops).1 ∧ ∀ r ∈ (runAll cfg c ops).2, r ≠ .panic := Inv_runAll ops c hi hok

/-- A block update never fails. -/
theorem block_update_never_fails {cfg : Cfg} {c : Chain} (secs : Nat) (hi : Inv cfg c) :
    (step cfg c (.advance secs)).2 = .ok := by
  obtain ⟨c', _, h, _⟩ := advance_succeeds (cfg := cfg) secs hi
  rw [step_of_ok (op := .advance secs) h]

/-- Delegating moves exactly the amount from the delegator to the pool (and no other balance of any denom), raises
the delegation by exactly the amount, and leaves every other delegation, the queue and the withdraw addresses alone. -/
theorem delegate_exact {cfg : Cfg} {c c' : Chain} {a : Addr} {v : String} {coin : Coin}
    (hwf : BankFacts.WF c.bank) (h : delegate cfg c a v coin = .ok c') :
    (∀ x d, Bank.queryBalance c'.bank x d + (if x = a ∧ d = coin.denom then coin.amount else 0) =
            Bank.queryBalance c.bank x d + (if x = cfg.pool ∧ d = coin.denom then coin.amount else 0)) ∧
    stakeOf c'.st a v = Dec.add (stakeOf c.st a v) (Dec.ofNat coin.amount) ∧
    (stakeOf c'.st a v).floor = (stakeOf c.st a v).floor + coin.amount ∧
    (∀ d2 w, (d2, w) ≠ (a, v) → stakeOf c'.st d2 w = stakeOf c.st d2 w) ∧
    c'.st.queue = c.st.queue ∧ c'.st.withdraw = c.st.withdraw := by
  have e := delegate_effect hwf h
  exact ⟨e.bank, e.stake.self_add rfl, by rw [e.stake.self_add rfl, Dec.floor_add_ofNat], e.stake.others, e.queue,
    e.withdraw⟩

/-- I5 at work: a delegation's whole tokens never exceed the validator total, so undelegating any amount up to the
SHOWN delegation from a known validator succeeds (before the fix of `slash` it could fail with an overflow error). -/
theorem undelegate_shown_succeeds {cfg : Cfg} {c : Chain} {a : Addr} {v : String} {coin : Coin} {vo : Validator}
    (hi : Inv cfg c) (hvo : c.st.validator? v = some vo) (hden : coin.denom = c.st.info.bondedDenom)
    (hnz : coin.amount ≠ 0) (hle : coin.amount ≤ (stakeOf c.st a v).floor) :
    ∃ c', undelegate c a v coin = .ok c' := Staking.undelegate_shown_succeeds hi hvo hden hnz hle

/-- I5 itself: the whole tokens of any recorded delegation are covered by the validator total. -/
theorem total_covers_delegation {cfg : Cfg} {c : Chain} (hi : Inv cfg c) {d : Addr} {v : String} {sh : Shares}
    {vi : ValInfo} (hs : KMap.get? c.st.stakes (d, v) = some sh) (hv : KMap.get? c.st.vinfo v = some vi) :
    sh.stake.floor ≤ vi.stake := hi.tinv.floor_le_total hs hv

/-- delegate: zero amount, foreign denomination or unknown validator -/
theorem rejects_delegate {cfg : Cfg} {c : Chain} {a : Addr} {v : String} {coin : Coin} (hi : Inv cfg c)
    (hbad : coin.amount = 0 ∨ coin.denom ≠ c.st.info.bondedDenom ∨ c.st.validator? v = none) :
    step cfg c (.delegate a v coin) = (c, .err) :=
  step_rejected hi fun c' h => by
    have e := delegate_effect hi.bank_wf h
    obtain ⟨vo, hvo⟩ := e.stake.valid
    rcases hbad with hb | hb | hb
    · exact e.amount_ne hb
    · exact hb e.denom
    · rw [hb] at hvo; cases hvo

/-- undelegate: zero amount, foreign denomination, unknown validator, or more than is delegated -/
theorem rejects_undelegate {cfg : Cfg} {c : Chain} {a : Addr} {v : String} {coin : Coin} (hi : Inv cfg c)
    (hbad : coin.amount = 0 ∨ coin.denom ≠ c.st.info.bondedDenom ∨ c.st.validator? v = none ∨
      stakeOf c.st a v < Dec.ofNat coin.amount) :
    step cfg c (.undelegate a v coin) = (c, .err) :=
  step_rejected hi fun c' h => by
    obtain ⟨h1, h2, ⟨vo, h3⟩, h4⟩ := (undelegate_succeeds_iff hi).mp ⟨c', h⟩
    rcases hbad with hb | hb | hb | hb
    · exact h1 hb
    · exact hb h2
    · rw [hb] at h3; cases h3
    · exact Nat.not_le.mpr hb h4

/-- redelegate: foreign denomination, unknown source or destination validator, or more than is delegated -/
theorem rejects_redelegate {cfg : Cfg} {c : Chain} {a : Addr} {v1 v2 : String} {coin : Coin} (hi : Inv cfg c)
    (hbad : coin.denom ≠ c.st.info.bondedDenom ∨ c.st.validator? v1 = none ∨ c.st.validator? v2 = none ∨
      stakeOf c.st a v1 < Dec.ofNat coin.amount) :
    step cfg c (.redelegate a v1 v2 coin) = (c, .err) :=
  step_rejected hi fun c' h => by
    have e := redelegate_effect h
    obtain ⟨vo1, hvo1⟩ := e.known_src
    obtain ⟨vo2, hvo2⟩ := e.known_dst
    rcases hbad with hb | hb | hb | hb
    · exact hb e.denom
    · rw [hb] at hvo1; cases hvo1
    · rw [hb] at hvo2; cases hvo2
    · exact Nat.not_le.mpr hb e.enough

/-- whatever does not succeed leaves the whole chain unchanged -/
theorem failed_without_effect {cfg : Cfg} {c : Chain} {op : Op} (h : (step cfg c op).2 ≠ .ok) :
    (step cfg c op).1 = c := by
  rcases run_cases cfg c op with ⟨c', hr⟩ | hr
  · rw [step_of_ok hr] at h; exact absurd rfl h
  · exact (step_of_not_ok hr).1

/-- An undelegated amount leaves the delegation at once, is queued with payout time `now + unbonding_time`, and no
coin moves yet. -/
theorem undelegate_at_once {c c' : Chain} {a : Addr} {v : String} {coin : Coin} (h : undelegate c a v coin = .ok c') :
    stakeOf c'.st a v = Dec.sub (stakeOf c.st a v) (Dec.ofNat coin.amount) ∧
    (stakeOf c'.st a v).floor = (stakeOf c.st a v).floor - coin.amount ∧
    c'.st.queue = c.st.queue ++ [⟨a, v, coin.amount, c.time + NS * c.st.info.unbondingTime⟩] ∧
    c'.bank = c.bank := by
  have e := undelegate_effect h
  have hsub := (e.stake.self_sub rfl).1
  exact ⟨hsub, by rw [hsub, Dec.floor_sub_ofNat], e.queue, e.bank⟩

/-- While pending, an entry changes only by slashes of its validator: `amount ↦ ⌊amount·(1−p)⌋`. -/
theorem pending_slashed {c c' : Chain} {v : String} {p : Dec} (hi : SInv c.st) (h : sudoSlash c v p = .ok c') :
    c'.st.queue = c.st.queue.map (fun u =>
      if u.validator = v then { u with amount := Dec.mulFloor u.amount (remOf p) } else u) :=
  (sudoSlash_effect hi h).queue

/-- … and by nothing else: delegate, redelegate, withdraw and set-withdraw-address leave the queue alone. -/
theorem pending_frame {cfg : Cfg} {c c' : Chain} (hi : Inv cfg c) :
    (∀ a v coin, delegate cfg c a v coin = .ok c' → c'.st.queue = c.st.queue) ∧
    (∀ a v1 v2 coin, redelegate c a v1 v2 coin = .ok c' → c'.st.queue = c.st.queue) ∧
    (∀ a v, withdrawRewards cfg c a v = .ok c' → c'.st.queue = c.st.queue) :=
  ⟨fun _ _ _ h => (delegate_effect hi.bank_wf h).queue, fun _ _ _ _ h => (redelegate_effect h).queue,
    fun _ _ h => (withdrawRewards_effect hi.sinv hi.last_le h).frame.1⟩

/-- Payout: a block update to time `now` pays exactly the queued entries with `payout_at ≤ now`, each in full (its
current amount) to its delegator; entries not yet due stay queued untouched — so an entry is paid by the first block
update at or after its payout time and not before; no other balance (except the pool's) and no shown delegation changes. -/
theorem unbonding_payout {cfg : Cfg} {c : Chain} (secs : Nat) (hi : Inv cfg c) :
    ∃ c' pre, advance cfg c secs = .ok c' ∧ c'.time = c.time + secs ∧
      c.st.queue = pre ++ c'.st.queue ∧ (∀ u ∈ pre, u.payoutAt ≤ c.time + secs) ∧
      (∀ u ∈ c'.st.queue, c.time + secs < u.payoutAt) ∧
      (∀ d v, (stakeOf c'.st d v).floor = (stakeOf c.st d v).floor) ∧
      (∀ x d, x ≠ cfg.pool → Bank.queryBalance c'.bank x d =
          Bank.queryBalance c.bank x d + (if d = c.st.info.bondedDenom then paidTo pre x else 0)) := by
  obtain ⟨c', pre, h, _, htime, r⟩ := advance_succeeds (cfg := cfg) secs hi
  exact ⟨c', pre, h, htime, r.split, r.due, r.later, r.shown, r.paid⟩

/-- a concrete set-up chain satisfies the invariant … -/
example : Inv exCfg exChain := exChain_inv
/-- … and the five-step D3 history (which panicked before the fix of `process_queue`) runs without panic -/
example : (runAll exCfg exChain d3History).2 = [.ok, .ok, .ok, .ok, .ok, .ok, .ok] := by decide +kernel
example : (step exCfg exChain (.delegate "d1" "v9" ⟨"TOKEN", 2⟩)).2 = .err := by decide
example : (step exCfg exChain (.delegate "d1" "v1" ⟨"OTHER", 2⟩)).2 = .err := by decide
example : (step exCfg (runAll exCfg exChain d3History).1 (.undelegate "d2" "v1" ⟨"TOKEN", 7⟩)).2 = .err := by decide +kernel
/-- the payout of the D3 history: d1's single token, halved by the slash, floors to 0; d2 delegated 11 in total -/
example : Bank.queryBalance (runAll exCfg exChain d3History).1.bank "d1" "TOKEN" = 98 ∧
    Bank.queryBalance (runAll exCfg exChain d3History).1.bank "pool" "TOKEN" = 13 := by decide +kernel

/-- the old F1 shape: 3 tokens, two 10 % slashes (share 2.43): the shown 2 tokens can be undelegated -/
example : (runAll exCfg exChain [.delegate "d1" "v1" ⟨"TOKEN", 3⟩, .slash "v1" ⟨100000000000000000⟩,
    .slash "v1" ⟨100000000000000000⟩, .undelegate "d1" "v1" ⟨"TOKEN", 2⟩]).2 = [.ok, .ok, .ok, .ok] := by decide

end CwMt.C14
