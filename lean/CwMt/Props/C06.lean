import CwMt.Proofs.Overlay
import CwMt.Proofs.Client
/-
  C06 — The transactional KV overlay behaves exactly like an ordered map over its base.
  Property theorems only; helper lemmas live in CwMt/Proofs/{Store,Overlay}.lean.

  Model: CwMt/Model/Overlay.lean (`Stack`, `merge`, `localRange`, `abs`), CwMt/Model/Store.lean.
  `abs st` is the plain ordered map (strictly sorted association list) that the stack denotes.
  `WF st` is the representation invariant: the root and every layer's `loc` are strictly sorted
  (they are BTreeMaps) and every layer's `loc` is the last-write-wins summary of its `log`.
  Every state reachable from a sorted root by push/set/remove/commit/discard satisfies `WF`
  (`wf_set`, `wf_remove`, `wf_push`, `wf_commit`, `wf_discard`).
-/
namespace CwMt.C06
open CwMt

/-! ### the specification really is an ordered map -/

theorem spec_get_set (m : Store Val) (h : m.Sorted) (k k' : Key) (v : Val) :
    (m.set k v).get k' = if k' = k then some v else m.get k' := Store.get_set m k k' v

theorem spec_get_remove (m : Store Val) (h : m.Sorted) (k k' : Key) :
    (m.remove k).get k' = if k' = k then none else m.get k' := Store.get_remove h k k'

theorem spec_mem_range (m : Store Val) (h : m.Sorted) (s e : Option Key) (o : Order) (k : Key) (v : Val) :
    (k, v) ∈ m.range s e o ↔ (inBounds s e k = true ∧ m.get k = some v) := Store.mem_range_iff_get h

/-! ### reachable states are well-formed -/

theorem wf_push (st : Stack) (h : WF st) : WF st.push := WF.push st h
theorem wf_set (st : Stack) (h : WF st) (k : Key) (v : Val) : WF (st.set k v) := WF.set st h k v
theorem wf_remove (st : Stack) (h : WF st) (k : Key) : WF (st.remove k) := WF.remove st h k
theorem wf_commit (st : Stack) (h : WF st) : WF st.commit := WF.commit st h
theorem wf_discard (st : Stack) (h : WF st) : WF st.discard := WF.discard st h
theorem abs_sorted (st : Stack) (h : WF st) : (abs st).Sorted := h.abs_sorted

/-! ### reads: get and range answer as the ordered map `abs st`, at any depth -/

theorem get_refines (st : Stack) (h : WF st) (k : Key) : st.get k = (abs st).get k :=
  Stack.get_eq_abs h k

/-- All bounds (absent, inverted, equal), both orders, any stacking depth. -/
theorem range_refines (st : Stack) (h : WF st) (s e : Option Key) (o : Order) :
    st.range s e o = (abs st).range s e o := Stack.range_eq_abs h s e o

/-- Each key at most once, in strict key order of the requested direction. -/
theorem range_strict_sorted (st : Stack) (h : WF st) (s e : Option Key) (o : Order) :
    (st.range s e o).Pairwise (fun a b => before o a.1 b.1 = true) := by
  rw [Stack.range_eq_abs h]
  exact Store.mono_range h.abs_sorted s e o

/-! ### writes -/

theorem set_refines (st : Stack) (h : WF st) (k : Key) (v : Val) :
    abs (st.set k v) = (abs st).set k v := Stack.abs_set h k v

theorem remove_refines (st : Stack) (h : WF st) (k : Key) :
    abs (st.remove k) = (abs st).remove k := Stack.abs_remove h k

theorem push_refines (st : Stack) : abs st.push = abs st := rfl

/-- While a cache is alive nothing beneath it changes: any sequence of writes to the cache leaves the
base (every lower layer and the root) syntactically unchanged, and dropping the cache returns it. -/
theorem base_untouched (st : Stack) (ops : List Op) : (st.push.applyLog ops).discard = st :=
  (Stack.beneath_eq_discard _).symm.trans ((SameFrame.applyLog ops st.push).2 (Nat.succ_pos _))

/-- Committing makes the base equal to the ordered map the cache showed, and pops one level. -/
theorem commit_refines (b : Stack) (l : Layer) (h : WF (.layer b l)) :
    abs (Stack.commit (.layer b l)) = abs (.layer b l) ∧ (Stack.commit (.layer b l)).depth = b.depth :=
  ⟨Stack.abs_commit h, (SameFrame.applyLog l.log b).1⟩

/-- Commit of the outermost cache: the root storage itself becomes the ordered map. -/
theorem commit_to_root (m : Store Val) (l : Layer) (h : WF (.layer (.root m) l)) :
    Stack.commit (.layer (.root m) l) = .root (abs (.layer (.root m) l)) :=
  Stack.commit_layer_root h

/-! ### non-vacuity: a depth-3 stack with overwrite, delete of a base key, delete-then-set,
the empty key, 00 / ff bytes and keys that are prefixes of each other -/

def nvStack : Stack :=
  ((((((Stack.root [([], [1]), ([0], [2]), ([0, 0], [3]), ([255], [4])]).push.set [0] [9]).remove [255]).push.remove
    [0, 0]).set [0, 0] [7]).push.remove []).set [97] [5]

example : WF nvStack := by decide
example : nvStack.depth = 3 := by decide
example : nvStack.range none none .asc = [([0], [9]), ([0, 0], [7]), ([97], [5])] := by decide
example : nvStack.range (some [255]) (some [0]) .desc = [] := by decide

end CwMt.C06

/-
  Whole clients. Model: CwMt/Model/Client.lean — `Client R` is an interaction tree over the `Storage`
  interface (get / range / set / remove on the storage handed to the code, getBase / rangeBase on the
  read-only base `transactional` hands to its action, `sub` = `transactional`), `Client.runStack`
  runs it on the overlay machinery, `Client.runPure base cur` on plain ordered maps where entering
  `sub` copies the map, `some` keeps the copy and `none` keeps the original. Helper lemmas live in
  CwMt/Proofs/Client.lean. `st.beneath` is the stack under the top layer (`Stack.discard`); a root
  store has no separate base, so for code running directly on it base reads see the current map:
  that is `Client.runPureRoot`. `Client.runSpec c st` picks the ordered-map run that belongs to `st`.
-/
namespace CwMt.C06
open CwMt

theorem runSpec_layer {R : Type} (c : Client R) (b : Stack) (l : Layer) :
    c.runSpec (.layer b l) = c.runPure (abs (Stack.layer b l).beneath) (abs (.layer b l)) := rfl

theorem runSpec_root {R : Type} (c : Client R) (m : Store Val) :
    c.runSpec (.root m) = c.runPureRoot m := rfl

/-- No client can tell the overlay machinery from copying a map: whatever a client does (reads,
range scans, writes, base reads, nested `transactional`s that commit or fail, to any depth), on any
well-formed stack, it gets the answers the ordered-map run gives and leaves a well-formed stack of
the same depth that denotes the map the ordered-map run computes; and if it runs on a cache, all
that lies beneath that cache is left exactly as it was. -/
theorem client_refines {R : Type} (c : Client R) (st st' : Stack) (r : R) (h : WF st)
    (hr : c.runStack st = (r, st')) :
    WF st' ∧ st'.depth = st.depth ∧ c.runSpec st = (r, abs st') ∧
      (0 < st.depth → st'.beneath = st.beneath) := by
  obtain ⟨h1, h2, h3⟩ := Client.simulates h hr
  exact ⟨h1, h2.1, h3, h2.2⟩

/-- `client_refines` spelled out for a client running on a cache `l` over `b`. -/
theorem client_refines_layer {R : Type} (c : Client R) (b : Stack) (l : Layer) (st' : Stack) (r : R)
    (h : WF (.layer b l)) (hr : c.runStack (.layer b l) = (r, st')) :
    WF st' ∧ st'.depth = b.depth + 1 ∧ c.runPure (abs b) (abs (.layer b l)) = (r, abs st') ∧
      st'.beneath = b := by
  obtain ⟨h1, h2, h3, h4⟩ := client_refines c _ st' r h hr
  exact ⟨h1, h2, h3, h4 (Nat.succ_pos _)⟩

/-- `client_refines` spelled out for a client running directly on a root store. -/
theorem client_refines_root {R : Type} (c : Client R) (m : Store Val) (st' : Stack) (r : R)
    (h : m.Sorted) (hr : c.runStack (.root m) = (r, st')) :
    ∃ m', st' = .root m' ∧ m'.Sorted ∧ c.runPureRoot m = (r, m') := by
  obtain ⟨h1, h2, h3⟩ := Client.simulates (st := .root m) h hr
  exact ⟨abs st', h2.root, h1.abs_sorted, h3⟩

/-- `transactional(root, body)` then `cont`, on a root store `m`: the continuation sees the root
store `Stack.root m'` with `m'` the map the ordered-map run of the body computes from a copy of `m`
if the body answered `some`, and `Stack.root m` itself if the body answered `none`. -/
theorem transactional_at_root {R X : Type} (body : Client (Option X)) (cont : Option X → Client R)
    (m : Store Val) (hm : m.Sorted) :
    (Client.sub body cont).runStack (.root m) =
      match body.runPure m m with
      | (some x, m') => (cont (some x)).runStack (.root m')
      | (none, _) => (cont none).runStack (.root m) :=
  Client.sub_at_root body cont m hm

/-- Atomicity of `transactional` on the root store, for every body, whatever it nests: all of the
body's effects (as computed on plain maps) or none. -/
theorem transactional_atomic_at_root {X : Type} (body : Client (Option X)) (m : Store Val)
    (hm : m.Sorted) :
    (Client.sub body Client.done).runStack (.root m) =
      match body.runPure m m with
      | (some x, m') => (some x, .root m')
      | (none, _) => (none, .root m) :=
  Client.transactional_atomic_at_root body m hm

/-! ### non-vacuity: an outer `transactional` that overwrites a root key and deletes another, an
inner `transactional` that writes twice, reads its base and then fails, and afterwards a base read
(the root, unchanged while the cache lives), reads of the cache and a range scan of the base -/

def nvClient : Client (Option (Option Val × Option Val × Option Val × Option Val × List (Key × Val))) :=
  .sub
    (.set [1] [10] <| .remove [3] <|
      .sub (X := Unit)
        (.set [2] [20] <| .set [1] [11] <| .getBase [1] fun b =>
          if b = some [10] then .done none else .done (some ()))
        fun inner =>
          .getBase [1] fun b => .get [1] fun c => .get [2] fun d => .get [3] fun e =>
          .rangeBase none none .desc fun rb =>
          .done (if inner.isNone then some (b, c, d, e, rb) else none))
    .done

def nvRoot : Store Val := [([1], [1]), ([3], [3])]

example : WF (.root nvRoot) := by decide
example : nvClient.runStack (.root nvRoot) =
    (some (some [1], some [10], none, none, [([3], [3]), ([1], [1])]), .root [([1], [10])]) := rfl
example : nvClient.runPureRoot nvRoot =
    (some (some [1], some [10], none, none, [([3], [3]), ([1], [1])]), [([1], [10])]) := rfl
/-- on a cache: the failing inner `transactional` and the writes leave the root beneath untouched -/
example : ((Client.set [1] [10] <| .sub (X := Unit) (.set [2] [20] <| .done none) fun _ =>
      .getBase [1] fun b => .get [2] fun d => .done (b, d)).runStack (Stack.root nvRoot).push).2.beneath
    = .root nvRoot := rfl
example : (Client.set [1] [10] <| .sub (X := Unit) (.set [2] [20] <| .done none) fun _ =>
      .getBase [1] fun b => .get [2] fun d => .done (b, d)).runPure nvRoot nvRoot
    = ((some [1], none), [([1], [10]), ([3], [3])]) := rfl
/-- the same outer body failing at the end leaves the root store as it was -/
example : (Client.sub (X := Unit) (.set [1] [10] <| .remove [3] <| .done none) Client.done).runStack
    (.root nvRoot) = (none, .root nvRoot) := rfl

end CwMt.C06
