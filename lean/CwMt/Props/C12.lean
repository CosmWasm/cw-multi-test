import CwMt.Proofs.EngineInv
import CwMt.Proofs.EngineBig
/-
  C12 — Only the current admin can migrate or re-assign admin; migration keeps state.
-/
namespace CwMt.C12
open CwMt
variable {E : Type}

/-- the admin of a contract in a state -/
def adminOf (ch : Chain E) (c : String) : Option Addr := (ch.contracts.get? c).bind (·.admin)

/-- a non-admin is always rejected, and the trace shows that no contract ran -/
theorem non_admin_rejected (cfg : Config E) (blk : Block) (fuel : Nat) (ch : Chain E) (sender : Addr)
    (c : String) (n : Nat) (m : Val) (a : String) (tr : Trace) (h : adminOf ch c ≠ some sender) :
    execute cfg blk (fuel + 1) ch sender (.wasmMigrate c n m) tr = (.err, tr) ∧
    execute cfg blk (fuel + 1) ch sender (.wasmUpdateAdmin c a) tr = (.err, tr) ∧
    execute cfg blk (fuel + 1) ch sender (.wasmClearAdmin c) tr = (.err, tr) :=
  ⟨Engine.execute_wasmMigrate_rejected cfg blk fuel ch sender c n m tr fun hh => h hh.1,
   by rw [Engine.execute_succ_wasmUpdateAdmin, EngineB.updateAdmin_non_admin cfg ch sender c _ h],
   by rw [Engine.execute_succ_wasmClearAdmin, EngineB.updateAdmin_non_admin cfg ch sender c _ h]⟩

/-- Migrate / UpdateAdmin / ClearAdmin succeed only when sent by the contract's current admin
(so never for a contract without admin, never for an unknown contract). -/
theorem auth_update_admin (cfg : Config E) (blk : Block) (fuel : Nat) (ch ch' : Chain E) (sender : Addr)
    (c a : String) (tr tr' : Trace) (r : AppResponse)
    (h : execute cfg blk fuel ch sender (.wasmUpdateAdmin c a) tr = (.ok (r, ch'), tr')) :
    adminOf ch c = some sender :=
  Decidable.by_contra fun hn =>
    Engine.execute_not_ok_of_rejected (fun f => (non_admin_rejected cfg blk f ch sender c 0 [] a tr hn).2.1) h

theorem auth_clear_admin (cfg : Config E) (blk : Block) (fuel : Nat) (ch ch' : Chain E) (sender : Addr)
    (c : String) (tr tr' : Trace) (r : AppResponse)
    (h : execute cfg blk fuel ch sender (.wasmClearAdmin c) tr = (.ok (r, ch'), tr')) :
    adminOf ch c = some sender :=
  Decidable.by_contra fun hn =>
    Engine.execute_not_ok_of_rejected (fun f => (non_admin_rejected cfg blk f ch sender c 0 [] "" tr hn).2.2) h

theorem auth_migrate (cfg : Config E) (blk : Block) (fuel : Nat) (ch ch' : Chain E) (sender : Addr)
    (c : String) (n : Nat) (m : Val) (tr tr' : Trace) (r : AppResponse)
    (h : execute cfg blk fuel ch sender (.wasmMigrate c n m) tr = (.ok (r, ch'), tr')) :
    adminOf ch c = some sender ∧ codeKnown cfg n = true :=
  Decidable.by_contra fun hn =>
    Engine.execute_not_ok_of_rejected (fun f => Engine.execute_wasmMigrate_rejected cfg blk f ch sender c n m tr hn) h

/-- a successful admin change sets exactly the admin field of exactly that contract -/
theorem admin_change_effect (cfg : Config E) (ch ch' : Chain E) (sender : Addr) (c : String)
    (new : Option String) (r : AppResponse)
    (h : updateAdmin cfg ch sender c new = .ok (r, ch')) :
    adminOf ch' c = new ∧
    (∃ cd, ch.contracts.get? c = some cd ∧ ch'.contracts.get? c = some { cd with admin := new }) ∧
    (∀ b, b ≠ c → ch'.contracts.get? b = ch.contracts.get? b) ∧
    ch'.bank = ch.bank ∧ ch'.cstore = ch.cstore ∧ r = {} :=
  EngineB.updateAdmin_effect h

/-- …and governs the next attempt: the former admin is rejected at once (unless re-appointed),
and after ClearAdmin everyone is. -/
theorem former_admin_rejected (cfg : Config E) (blk : Block) (fuel : Nat) (ch ch' : Chain E) (sender : Addr)
    (c : String) (new : Option String) (r : AppResponse) (n : Nat) (m : Val) (a : String) (tr : Trace)
    (h : updateAdmin cfg ch sender c new = .ok (r, ch')) (hne : new ≠ some sender) :
    execute cfg blk (fuel + 1) ch' sender (.wasmMigrate c n m) tr = (.err, tr) ∧
    execute cfg blk (fuel + 1) ch' sender (.wasmUpdateAdmin c a) tr = (.err, tr) ∧
    execute cfg blk (fuel + 1) ch' sender (.wasmClearAdmin c) tr = (.err, tr) := by
  apply non_admin_rejected
  show EngineB.adminOf ch' c ≠ some sender
  rw [(EngineB.updateAdmin_effect h).1]
  exact hne

/-- A permitted migration records the new code id first and then runs the `migrate` entry point of
the code registered under that id, on the same address and the contract's existing storage. -/
theorem migrate_runs_new_code_on_same_storage (cfg : Config E) (blk : Block) (fuel : Nat) (ch : Chain E)
    (sender : Addr) (c : String) (n : Nat) (m : Val) (tr : Trace) (cd : ContractData)
    (hv : cfg.validAddr c = true) (hk : codeKnown cfg n = true)
    (hc : ch.contracts.get? c = some cd) (ha : cd.admin = some sender) :
    let ch₁ : Chain E := { ch with contracts := ch.contracts.set c { cd with codeId := n } }
    ch₁.cstore = ch.cstore ∧ ch₁.contracts.get? c = some { cd with codeId := n } ∧
    execute cfg blk (fuel + 1) ch sender (.wasmMigrate c n m) tr =
      (match callContract cfg blk ch₁ c (.migrate m) tr with
       | (.ok (resp, ch₂), tr₁) =>
         (match processResponse cfg blk fuel ch₂ c
             (buildAppResponse c { ty := "migrate", attrs := [contractAttr c, ⟨"code_id", toString n⟩] } resp).1
             (buildAppResponse c { ty := "migrate", attrs := [contractAttr c, ⟨"code_id", toString n⟩] } resp).2 tr₁ with
          | (.ok (r, ch₃), tr₂) => (.ok ({ r with data := r.data.map encodeExecuteResponse }, ch₃), tr₂)
          | other => other)
       | (.err, tr₁) => (.err, tr₁)
       | (.panic, tr₁) => (.panic, tr₁)
       | (.outOfFuel, tr₁) => (.outOfFuel, tr₁)) :=
  Engine.execute_wasmMigrate_of_admin cfg blk fuel ch sender c n m tr cd hv hk hc ha

/-- afterwards calls are served by the code registered under the recorded id -/
theorem served_by_recorded_code (cfg : Config E) (blk : Block) (ch : Chain E) (c : Addr) (en : Entry) (tr : Trace)
    (cd : ContractData) (code : Code E)
    (hc : ch.contracts.get? c = some cd) (hcode : contractCode? cfg cd.codeId = some code) :
    ∃ note, (callContract cfg blk ch c en tr).2 = tr ++ [⟨c, en, contractEnv blk c, note⟩] ∧
      note = (code.run en (contractEnv blk c) ch ((ch.cstore.get? c).getD [])).2 := by
  refine ⟨_, ?_, rfl⟩
  rw [EngineB.callContract_eq cfg blk ch c en tr hc hcode]
  simp only
  split
  · split <;> rfl
  all_goals rfl

end CwMt.C12

/-! ### the history form: a contract without admin stays as it is, forever -/
namespace CwMt.C12
open CwMt

/-- For every message tree (any senders, any contracts acting through sub-messages): a contract that
has no admin keeps having no admin and keeps its code id. -/
theorem no_admin_is_forever {E : Type} (cfg : Config E) (hf : ExtFrame cfg) (blk : Block) (fuel : Nat)
    (ch ch' : Chain E) (sender : Addr) (m : Msg) (tr tr' : Trace) (r : AppResponse)
    (h : execute cfg blk fuel ch sender m tr = (.ok (r, ch'), tr'))
    (c : Addr) (cd : ContractData) (hc : ch.contracts.get? c = some cd) (hna : cd.admin = none) :
    ∃ cd', ch'.contracts.get? c = some cd' ∧ cd'.admin = none ∧ cd'.codeId = cd.codeId := by
  obtain ⟨_, _, hR⟩ := EngineInv.execute_related (EngineInv.regInv cfg blk hf) h
  obtain ⟨cd', g, _, _, _, d⟩ := hR c cd hc
  rcases d with ⟨e1, e2⟩ | ⟨a, ha, _⟩
  · exact ⟨cd', g, e1.trans hna, e2⟩
  · rw [hna] at ha; cases ha

/-- A contract's admin or code id can change during the execution of a message only if its admin at
the start was the sender of that message or a contract invoked during the execution. -/
theorem change_needs_admin_involved {E : Type} (cfg : Config E) (hf : ExtFrame cfg) (blk : Block) (fuel : Nat)
    (ch ch' : Chain E) (sender : Addr) (m : Msg) (tr new : Trace) (r : AppResponse)
    (h : execute cfg blk fuel ch sender m tr = (.ok (r, ch'), tr ++ new))
    (c : Addr) (cd cd' : ContractData) (hc : ch.contracts.get? c = some cd) (hc' : ch'.contracts.get? c = some cd')
    (hchg : cd'.admin ≠ cd.admin ∨ cd'.codeId ≠ cd.codeId) :
    ∃ a, cd.admin = some a ∧ (a = sender ∨ ∃ e ∈ new, e.callee = a) := by
  obtain ⟨cd'', g, _, _, _, d⟩ :=
    (EngineInv.Runs_execute (EngineInv.regInv cfg blk hf) fuel ch sender m).related h c cd hc
  rw [hc'] at g
  cases g
  rcases d with ⟨e1, e2⟩ | hx
  · rcases hchg with h1 | h2
    · exact absurd e1 h1
    · exact absurd e2 h2
  · exact hx

/-! ### the complete rule of `WasmMsg::Migrate` as a fuel-free judgement (CwMt/Model/EngineBig.lean): authorisation first, then the new code id is recorded, then the NEW code's `migrate` runs on the same storage -/

/-- `WasmMsg::Migrate`: checks, then the new code id is recorded, then `migrate` of the NEW code runs on that state,
then its sub-messages; data wrapped as for execute -/
theorem migrate_rule (cfg : Config E) (blk : Block) (ch : Chain E) (s : Addr) (contract : String) (newCodeId : Nat)
    (m : Val) (o : Out E) :
    Exec cfg blk ch s (.wasmMigrate contract newCodeId m) o ↔
      (if cfg.validAddr contract = false then o = .err else
       if codeKnown cfg newCodeId = false then o = .err else
       match ch.contracts.get? contract with
       | none => o = .err
       | some cd =>
         if cd.admin ≠ some s then o = .err else
         match (callContract cfg blk { ch with contracts := ch.contracts.set contract { cd with codeId := newCodeId } }
                  contract (.migrate m) []).1 with
         | .ok (resp, ch₂) =>
           ∃ o', Proc cfg blk ch₂ contract
               (buildAppResponse contract { ty := "migrate", attrs := [contractAttr contract, ⟨"code_id", toString newCodeId⟩] } resp).1
               (buildAppResponse contract { ty := "migrate", attrs := [contractAttr contract, ⟨"code_id", toString newCodeId⟩] } resp).2 o' ∧
             o = (match o' with
                  | .ok (r, ch₃) => .ok ({ r with data := r.data.map encodeExecuteResponse }, ch₃)
                  | other => other)
         | .err => o = .err
         | .panic => o = .panic
         | .outOfFuel => False) :=
  EngineBig.exec_wasm_migrate cfg blk ch s contract newCodeId m o

end CwMt.C12
