import CwMt.Proofs.EngineInv
import CwMt.Proofs.EngineB_Registry
import CwMt.Proofs.EngineBig
/-
  C11 — Code ids and contract addresses are unique, stable and usable.
  Model: CwMt/Model/Registry.lean (code registry) and `registerContract` of CwMt/Model/Engine.lean.
  The address generators are parameters (`cfg.addrClassic`, `cfg.addrSalted`; SHA-256 is not
  modelled): statements about addresses are of the form "the address is the generator applied to
  exactly these arguments".
-/
namespace CwMt.C11
open CwMt
variable {E : Type}

/-- registry invariant: ids strictly increasing (hence pairwise distinct) and within 1 ..= u64::MAX -/
def RegInv (codes : Registry.Codes) : Prop :=
  codes.Pairwise (fun a b => a.1 < b.1) ∧ ∀ p ∈ codes, 1 ≤ p.1 ∧ p.1 ≤ Registry.u64Max

theorem reg_inv_empty : RegInv [] := ⟨List.Pairwise.nil, fun _ h => nomatch h⟩

theorem reg_inv_store (st st' : Registry.State) (creator : Addr) (chk : Nat → Val) (id : Nat)
    (hi : RegInv st.codes) (h : Registry.storeCode st creator chk = .ok (id, st')) : RegInv st'.codes := by
  obtain ⟨hn, rfl⟩ := EngineB.storeCode_ok h
  have hid := EngineB.nextCodeId_eq_some hn
  exact EngineB.RegInv_insert _ hi (by omega) hid.2

theorem reg_inv_store_with_id (st st' : Registry.State) (creator : Addr) (chk : Nat → Val) (id id' : Nat)
    (hi : RegInv st.codes) (hle : id ≤ Registry.u64Max)
    (h : Registry.storeCodeWithId st creator id chk = .ok (id', st')) : RegInv st'.codes := by
  rw [EngineB.storeCodeWithId_eq] at h
  split at h
  next hg =>
    cases h
    exact EngineB.RegInv_insert _ hi (Nat.pos_of_ne_zero hg.1) hle
  · cases h

theorem reg_inv_duplicate (st st' : Registry.State) (id nid : Nat)
    (hi : RegInv st.codes) (h : Registry.duplicateCode st id = .ok (nid, st')) : RegInv st'.codes := by
  obtain ⟨cd, _, hn, rfl⟩ := EngineB.duplicateCode_ok h
  have hid := EngineB.nextCodeId_eq_some hn
  exact EngineB.RegInv_insert _ hi (by omega) hid.2

/-- auto-assigned ids are one more than the largest id in use, hence new -/
theorem auto_id (st st' : Registry.State) (creator : Addr) (chk : Nat → Val) (id : Nat)
    (h : Registry.storeCode st creator chk = .ok (id, st')) :
    id = Registry.maxId st.codes + 1 ∧ (∀ p ∈ st.codes, p.1 < id) ∧ st.codes.lookup id = none := by
  obtain ⟨rfl, _⟩ := EngineB.nextCodeId_eq_some (EngineB.storeCode_ok h).1
  have hlt : ∀ p ∈ st.codes, p.1 < Registry.maxId st.codes + 1 := fun p hp =>
    Nat.lt_succ_of_le (EngineB.le_maxId _ p hp)
  exact ⟨rfl, hlt, List.lookup_eq_none_iff.2 fun p hp => by simpa using Nat.ne_of_gt (hlt p hp)⟩

/-- explicitly chosen ids are honoured iff non-zero and unused; otherwise rejected -/
theorem explicit_id_iff (st : Registry.State) (creator : Addr) (chk : Nat → Val) (id : Nat) :
    (∃ st', Registry.storeCodeWithId st creator id chk = .ok (id, st')) ↔
      (id ≠ 0 ∧ st.codes.lookup id = none) := by
  rw [EngineB.storeCodeWithId_eq]
  constructor
  · rintro ⟨st', h⟩
    split at h
    · assumption
    · cases h
  · intro hg
    exact ⟨_, if_pos hg⟩

theorem explicit_id_rejected (st : Registry.State) (creator : Addr) (chk : Nat → Val) (id : Nat)
    (h : id = 0 ∨ (st.codes.lookup id).isSome = true) : Registry.storeCodeWithId st creator id chk = .err := by
  rw [EngineB.storeCodeWithId_eq, if_neg]
  rintro ⟨h0, hl⟩
  rcases h with h | h
  · exact h0 h
  · rw [hl] at h; cases h

/-- every stored code is found under its id afterwards, and storing never disturbs other ids -/
theorem stored_code_found (st : Registry.State) (hi : RegInv st.codes) (id : Nat) (cd : CodeData) :
    (Registry.insert st.codes id cd).lookup id = some cd ∧
    ∀ j, j ≠ id → (Registry.insert st.codes id cd).lookup j = st.codes.lookup j :=
  ⟨by rw [EngineB.lookup_insert, if_pos rfl], fun j hj => by rw [EngineB.lookup_insert, if_neg hj]⟩

/-- a stored code passes the registry check of instantiate / migrate and answers CodeInfo
(full strength: any registered id, contiguous or not) -/
theorem stored_code_usable (cfg : Config E) (id : Nat) (cd : CodeData) (hid : 1 ≤ id)
    (h : cfg.codes.lookup id = some cd) : codeKnown cfg id = true ∧ codeData? cfg id = some cd :=
  ⟨by rw [EngineB.codeKnown_eq, h]; rfl, (EngineB.codeData?_eq_lookup cfg hid).trans h⟩

/-- a duplicated code shares creator, checksum and source with the original -/
theorem duplicate_shares (st st' : Registry.State) (id nid : Nat) (hi : RegInv st.codes)
    (h : Registry.duplicateCode st id = .ok (nid, st')) :
    nid = Registry.maxId st.codes + 1 ∧ st'.codes.lookup nid = st.codes.lookup id ∧ (st.codes.lookup id).isSome = true := by
  obtain ⟨cd, hcd, hn, rfl⟩ := EngineB.duplicateCode_ok h
  rw [hcd]
  exact ⟨(EngineB.nextCodeId_eq_some hn).1, (EngineB.lookup_insert ..).trans (if_pos rfl), rfl⟩

/-- A successful registration creates a contract at an address no existing contract has, records
exactly what was supplied, and leaves every other contract record, all balances and all contract
storage alone. -/
theorem fresh_address (cfg : Config E) (ch ch' : Chain E) (codeId : Nat) (creator : Addr) (admin : Option Addr)
    (label : String) (created : Nat) (salt : Option Val) (addr : Addr)
    (h : registerContract cfg ch codeId creator admin label created salt = .ok (addr, ch')) :
    ch.contracts.get? addr = none ∧
    ch'.contracts.get? addr = some { codeId := codeId, creator := creator, admin := admin, label := label, created := created } ∧
    (∀ b, b ≠ addr → ch'.contracts.get? b = ch.contracts.get? b) ∧
    ch'.bank = ch.bank ∧ ch'.cstore = ch.cstore :=
  EngineB.registerContract_effect h

/-- classic address = generator(code id, number of contracts at that moment) -/
theorem classic_address_inputs (cfg : Config E) (ch ch' : Chain E) (codeId : Nat) (creator : Addr)
    (admin : Option Addr) (label : String) (created : Nat) (addr : Addr)
    (h : registerContract cfg ch codeId creator admin label created none = .ok (addr, ch')) :
    cfg.addrClassic codeId ch.contracts.length = .ok addr :=
  (EngineB.registerContract_ok h).2.1

/-- with a salt the address is generator(checksum of the code, creator, salt) and nothing else -/
theorem salted_address_inputs (cfg : Config E) (ch ch' : Chain E) (codeId : Nat) (creator : Addr)
    (admin : Option Addr) (label : String) (created : Nat) (salt : Val) (addr : Addr)
    (h : registerContract cfg ch codeId creator admin label created (some salt) = .ok (addr, ch')) :
    ∃ cd, codeData? cfg codeId = some cd ∧ cfg.addrSalted cd.checksum creator salt = .ok addr := by
  obtain ⟨cd, hcd, _, ha⟩ := (EngineB.registerContract_ok h).2.1
  exact ⟨cd, hcd, ha⟩

/-- repeating a salted instantiation (same code, creator, salt — any admin/label/height, any later
state that still holds the contract) is rejected as a duplicate -/
theorem salted_repeat_rejected (cfg : Config E) (ch ch' ch₂ : Chain E) (codeId : Nat) (creator : Addr)
    (admin admin₂ : Option Addr) (label label₂ : String) (created created₂ : Nat) (salt : Val) (addr : Addr)
    (h : registerContract cfg ch codeId creator admin label created (some salt) = .ok (addr, ch'))
    (hstill : (ch₂.contracts.get? addr).isSome = true) :
    registerContract cfg ch₂ codeId creator admin₂ label₂ created₂ (some salt) = .err := by
  obtain ⟨_, ⟨cd, hcd, hv, ha⟩, _⟩ := EngineB.registerContract_ok h
  exact EngineB.registerContract_salted_taken admin₂ label₂ created₂ hcd hv ha hstill

/-- an empty label is rejected before anything happens -/
theorem empty_label_rejected (cfg : Config E) (blk : Block) (fuel : Nat) (ch : Chain E) (sender : Addr)
    (admin : Option String) (codeId : Nat) (m : Val) (funds : Coins) (salt : Option Val) (tr : Trace) :
    execute cfg blk (fuel + 1) ch sender (.wasmInstantiate admin codeId m funds "" salt) tr = (.err, tr) := by
  rw [Engine.execute_succ_wasmInstantiate]
  exact if_pos rfl

/-- non-vacuity: non-contiguous ids -/
example : ∃ st', Registry.storeCodeWithId {} "creator" 10 (fun _ => []) = .ok (10, st') ∧
    st'.codes.lookup 10 = some { creator := "creator", checksum := [], sourceId := 0 } := ⟨_, rfl, by decide⟩

end CwMt.C11

/-! ### stability over whole executions -/
namespace CwMt.C11
open CwMt

/-- Whatever a message tree does, every contract that existed before still exists afterwards at the
same address with the creator, label and creation height it was registered with. -/
theorem registry_stable {E : Type} (cfg : Config E) (hf : ExtFrame cfg) (blk : Block) (fuel : Nat)
    (ch ch' : Chain E) (sender : Addr) (m : Msg) (tr tr' : Trace) (r : AppResponse)
    (h : execute cfg blk fuel ch sender m tr = (.ok (r, ch'), tr'))
    (c : Addr) (cd : ContractData) (hc : ch.contracts.get? c = some cd) :
    ∃ cd', ch'.contracts.get? c = some cd' ∧ cd'.creator = cd.creator ∧ cd'.label = cd.label ∧
      cd'.created = cd.created := by
  obtain ⟨_, _, hR⟩ := EngineInv.execute_related (EngineInv.regInv cfg blk hf) h
  obtain ⟨cd', g, a, b, c', _⟩ := hR c cd hc
  exact ⟨cd', g, a, b, c'⟩

/-! ### the complete rule of `WasmMsg::Instantiate(2)` as a fuel-free judgement (CwMt/Model/EngineBig.lean) -/

/-- `WasmMsg::Instantiate(2)`: register, move the funds to the new address, run `instantiate` there, then its
sub-messages; the data is always the instantiate-response encoding of the new address and the final data -/
theorem instantiate_rule (cfg : Config E) (blk : Block) (ch : Chain E) (s : Addr) (admin : Option String)
    (codeId : Nat) (m : Val) (funds : Coins) (label : String) (salt : Option Val) (o : Out E) :
    Exec cfg blk ch s (.wasmInstantiate admin codeId m funds label salt) o ↔
      (if label.isEmpty = true then o = .err else
       match registerContract cfg ch codeId s admin label blk.height salt with
       | .ok (addr, ch₀) =>
         (match sendFunds ch₀ s addr funds with
          | .ok ch₁ =>
            (match (callContract cfg blk ch₁ addr (.instantiate ⟨s, funds⟩ m) []).1 with
             | .ok (resp, ch₂) =>
               ∃ o', Proc cfg blk ch₂ addr
                   (buildAppResponse addr { ty := "instantiate", attrs := [contractAttr addr, ⟨"code_id", toString codeId⟩] } resp).1
                   (buildAppResponse addr { ty := "instantiate", attrs := [contractAttr addr, ⟨"code_id", toString codeId⟩] } resp).2 o' ∧
                 o = (match o' with
                      | .ok (r, ch₃) => .ok ({ r with data := some (encodeInstantiateResponse addr (r.data.getD [])) }, ch₃)
                      | other => other)
             | .err => o = .err
             | .panic => o = .panic
             | .outOfFuel => False)
          | .err => o = .err
          | .panic => o = .panic
          | .outOfFuel => False)
       | .err => o = .err
       | .panic => o = .panic
       | .outOfFuel => False) :=
  EngineBig.exec_wasm_instantiate cfg blk ch s admin codeId m funds label salt o

end CwMt.C11
