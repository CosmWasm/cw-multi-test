import CwMt.Proofs.StakingExample
import CwMt.Proofs.StakingHistory
import CwMt.Proofs.StakingRewards
/-
  C15 — Staking rewards accrue linearly, are never over-paid, and pay out what is shown.
  The lemmas these theorems rest on live in CwMt/Proofs/Staking{Rewards,Arith,Bounds,History}.lean.

  Readings (DESIGN.md section 7): R1 — "stake" is the delegation's fractional value; R7 — every bound carries a slack of
  a few 10^-18 tokens per reward update. The rounding bounds are stated in `Nat` with the denominators multiplied out:
  for validator total `S` (whole tokens), rate `A` (atomics), commission `c` (atomics), share `sa` (atomics) and `T`
  seconds the exact credit, in atomics, is  X = S·A·T·(10^18 − c)·sa / P  with  P = S·10^18·10^18·YEAR.
  `creditOf S A c sa T` is what one `update_rewards` adds to the delegator's accumulator (`credit_is_creditOf`).

  Proved here: the exact statements (`withdraw_exact`, `mints_nothing_else`, `others_unaffected`, `zero_rejected`,
  `crediting_is_invisible`) for all states; the per-update rounding bounds `upper_step` / `lower_step` with their sum over
  any split of a period of constant stake (`path_independent_upper/lower`); with invariant I5 of C14 (validator total ≥
  whole tokens of the sum of its shares, restored by the fix of `slash`) the bounds free of the validator total
  `upper_step_free` (credit ≤ exact + 2 atomics) and `lower_step_free` (exact ≤ credit + 4 atomics), whose side conditions
  hold for every SHOWN delegation (`shown_delegation_accrues`: total ≥ 1 token, share < total + 1 tokens); and their sum
  over a whole delegation period as an invariant of the reward ledger (`history_bounds`): for ANY interleaving of reward
  updates (each with its own validator total, share and time span) and withdrawals
        withdrawn + accumulator ≤ Σ exact + 2·n atomics,   Σ exact ≤ withdrawn + accumulator + w tokens + 4·n atomics
  (n updates, w withdrawals; the shown pending reward is the floor of the accumulator, which costs the final "+1 token").
  The model's operations are steps of that ledger: `update_is_credit` (an `update_rewards` adds exactly `creditOf …` to
  the accumulator of every recorded delegator and keeps the stake), `withdraw_exact` (a withdrawal pays the floor and
  resets).
  The composition over operation histories is proved as well (CwMt/Proofs/StakingHistory.lean): `history_of_model` — for
  every chain satisfying `Inv` and EVERY list of operations (slashes of any validator, anything by other delegators, any
  number of withdrawals and withdraw-address changes by `d`, block updates) in which `d` does not itself delegate /
  undelegate / redelegate the pair `(d, v)` and its delegation stays shown, the run of the model is a run of the ledger
  (`model_run_is_ledger_run`), the tokens the ledger records as paid are exactly what the bank mints to `d`'s withdraw
  address (`withdrawals_mint_paid`), and the final Delegation query shows `shown` with
        (paid + shown) tokens ≤ E + 2·n atomics     and     E < (paid + shown + w + 1) tokens + 4·n atomics,
  `E` = accumulator at the start + Σ over the crediting reward updates of `v` (the final query's own, virtual, update
  included) of share · apr · (1 − commission) · Δt / YEAR, all scaled by `P0` so that they are natural numbers.
  Not covered by that theorem: periods across a re-staking of the pair by `d` itself (each such operation starts a new
  application of the theorem from the chain it produces: the ledger starts with the accumulator of the record) and sub-token
  remnants that are not shown (they earn nothing while alone with their validator).
-/
namespace CwMt.C15
open CwMt CwMt.Staking KMap

/-- Crediting the rewards of a validator (what every stake change, withdrawal and slash does first) is invisible to
every Delegation query: the query was already adding exactly the term that is credited. -/
theorem crediting_is_invisible {cfg : Cfg} {c : Chain} {s1 : SState} {v : String} (hi : SInv c.st)
    (hl : LastLe c.st c.time) (h : updateRewards c.st c.time v = .ok s1) (d : Addr) (w : String) :
    queryDelegation cfg { c with st := s1 } d w = queryDelegation cfg c d w := queryDelegation_updateRewards hi hl h d w

/-- A successful withdrawal mints exactly the pending reward `r` that the Delegation query showed immediately before
(`shownReward … = ok r`, `r ≠ 0`) to the delegator's current withdraw address, resets the accumulator, keeps the stake;
afterwards the query shows 0; queue, withdraw addresses and other validators' infos are untouched. -/
theorem withdraw_exact {cfg : Cfg} {c c' : Chain} {a : Addr} {v : String} (hi : SInv c.st)
    (hl : LastLe c.st c.time) (h : withdrawRewards cfg c a v = .ok c') : WithdrawEffect cfg c a v c' :=
  withdrawRewards_effect hi hl h

/-- … and mints nothing else: the only balance that changes is that of the withdraw address, by exactly `r`. -/
theorem mints_nothing_else {cfg : Cfg} {c c' : Chain} {a : Addr} {v : String} (hi : SInv c.st)
    (hl : LastLe c.st c.time) (hwf : BankFacts.WF c.bank) (h : withdrawRewards cfg c a v = .ok c') :
    ∃ r, (∃ vo vi, c.st.validator? v = some vo ∧ get? c.st.vinfo v = some vi ∧
            shownReward c.st c.time (curShares c.st a v) vo vi = .ok r) ∧
      ∀ x d, Bank.queryBalance c'.bank x d = Bank.queryBalance c.bank x d +
        (if x = withdrawAddr c.st a ∧ d = c.st.info.bondedDenom then r else 0) := by
  obtain ⟨vo, vi, r, h1, h2, h3, _, h5, _⟩ := (withdrawRewards_effect hi hl h).shown_before
  exact ⟨r, ⟨vo, vi, h1, h2, h3⟩, fun x d => BankFacts.queryBalance_mint_single hwf h5 x d⟩

/-- Other delegators (and the same delegator at other validators) get the identical answer from the Delegation query
before and after someone's withdrawal. -/
theorem others_unaffected {cfg : Cfg} {c c' : Chain} {a : Addr} {v : String} (hi : SInv c.st)
    (hl : LastLe c.st c.time) (h : withdrawRewards cfg c a v = .ok c') (d2 : Addr) (w : String)
    (hne : (d2, w) ≠ (a, v)) : queryDelegation cfg c' d2 w = queryDelegation cfg c d2 w :=
  (withdrawRewards_effect hi hl h).others d2 w hne

/-- Zero pending reward ⇒ the withdrawal is rejected. -/
theorem zero_rejected {cfg : Cfg} {c : Chain} {a : Addr} {v : String} (hi : SInv c.st)
    (hl : LastLe c.st c.time) (vo : Validator) (vi : ValInfo) (hvo : c.st.validator? v = some vo)
    (hvi : get? c.st.vinfo v = some vi) (hz : shownReward c.st c.time (curShares c.st a v) vo vi = .ok 0) :
    ∀ c', withdrawRewards cfg c a v ≠ .ok c' := by
  intro c' h
  obtain ⟨vo', vi', r, h1, h2, h3, h4, _⟩ := (withdrawRewards_effect hi hl h).shown_before
  cases hvo.symm.trans h1
  cases hvi.symm.trans h2
  exact h4 (Outcome.ok.inj (h3.symm.trans hz))

/-- what `update_rewards` adds to a delegator's accumulator -/
theorem credit_is_creditOf {now since : Nat} {apr c : Dec} {vi : ValInfo} {nr : Dec} (sh : Shares)
    (hc : c.atomics ≤ Dec.ONE) (hle : since ≤ now) (hS : vi.stake ≠ 0)
    (h : calcRewards now since apr c vi.stake = .ok nr) :
    (shareOfRewards sh vi nr).atomics = creditOf vi.stake apr.atomics c.atomics sh.stake.atomics (elapsed now since) :=
  shareOfRewards_eq_creditOf sh hc hle h

/-- Upper bound of one update: `credit ≤ X + ρ` atomics, `ρ = sa/(S·10^18)` the share/total ratio (≤ 1 + number of
fractional slashes; exactly the over-crediting by the commission that is rounded down). -/
theorem upper_step (S A c sa T : Nat) (hc : c ≤ Dec.ONE) :
    creditOf S A c sa T * (S * Dec.ONE * Dec.ONE * YEAR)
      ≤ S * A * T * (Dec.ONE - c) * sa + Dec.ONE * YEAR * sa :=
  Arith.credit_upper S A T c sa Dec.ONE YEAR Dec.ONE_pos hc

/-- Lower bound of one update: `X < credit + 1 + 1/S + (1 − c)·ρ` atomics. -/
theorem lower_step (S A c sa T : Nat) (hS : 0 < S) (hc : c ≤ Dec.ONE) :
    S * A * T * (Dec.ONE - c) * sa
      ≤ (creditOf S A c sa T + 1) * (S * Dec.ONE * Dec.ONE * YEAR) + Dec.ONE * Dec.ONE * YEAR
        + YEAR * (Dec.ONE - c) * sa :=
  Arith.credit_lower S A T c sa Dec.ONE YEAR Dec.ONE_pos YEAR_pos hS hc

/-- Path independence: however a period of constant stake is split into updates `Ts`, the sum of the credits is at
most the exact value of the whole period plus `ρ` atomics per update … -/
theorem path_independent_upper (S A c sa : Nat) (hc : c ≤ Dec.ONE) (Ts : List Nat) :
    (Ts.map (creditOf S A c sa)).sum * (S * Dec.ONE * Dec.ONE * YEAR)
      ≤ S * A * Ts.sum * (Dec.ONE - c) * sa + Ts.length * (Dec.ONE * YEAR * sa) :=
  Arith.sum_upper (creditOf S A c sa) (S * A) (Dec.ONE - c) sa _ _ (fun T => upper_step S A c sa T hc) Ts

/-- … and at least the exact value minus `1 + 1/S + (1 − c)·ρ` atomics per update; so two splittings of the same
period into `k` and `k'` updates differ by less than `(k + k')·(2 + ρ)·10^-18` tokens. -/
theorem path_independent_lower (S A c sa : Nat) (hS : 0 < S) (hc : c ≤ Dec.ONE) (Ts : List Nat) :
    S * A * Ts.sum * (Dec.ONE - c) * sa
      ≤ ((Ts.map (creditOf S A c sa)).sum + Ts.length) * (S * Dec.ONE * Dec.ONE * YEAR)
        + Ts.length * (Dec.ONE * Dec.ONE * YEAR + YEAR * (Dec.ONE - c) * sa) :=
  Arith.sum_lower (creditOf S A c sa) (S * A) (Dec.ONE - c) sa _ _ _ (fun T => lower_step S A c sa T hS hc) Ts

/-- Under I5 every shown delegation accrues: the validator total is positive and the share is below total + 1 tokens
(the side conditions of the bounds below; before the fix of `slash` the total could be 0 under a shown delegation). -/
theorem shown_delegation_accrues {s : SState} (ht : TInv s) {d : Addr} {v : String} {sh : Shares} {vi : ValInfo}
    (hs : get? s.stakes (d, v) = some sh) (hv : get? s.vinfo v = some vi) (hpos : 0 < sh.stake.floor) (T : Nat) :
    (Ev.mk vi.stake sh.stake.atomics T).ok := ht.ev_ok hs hv hpos T

/-- Upper bound of one update without the validator total: credit ≤ exact + 2 atomics (`P0 = 10^18·10^18·YEAR`). -/
theorem upper_step_free (S A c sa T : Nat) (hS : 0 < S) (hc : c ≤ Dec.ONE) (hsa : sa ≤ Dec.ONE * (S + 1)) :
    creditOf S A c sa T * P0 ≤ A * T * (Dec.ONE - c) * sa + 2 * P0 :=
  Arith.credit_upper_free S A T c sa Dec.ONE YEAR Dec.ONE_pos hS hc hsa

/-- Lower bound of one update without the validator total: exact ≤ credit + 4 atomics. -/
theorem lower_step_free (S A c sa T : Nat) (hS : 0 < S) (hc : c ≤ Dec.ONE) (hsa : sa ≤ Dec.ONE * (S + 1)) :
    A * T * (Dec.ONE - c) * sa ≤ (creditOf S A c sa T + 4) * P0 :=
  Arith.credit_lower_free S A T c sa Dec.ONE YEAR Dec.ONE_pos YEAR_pos hS hc hsa

/-- History level: both bounds hold after any interleaving of reward updates and withdrawals of one delegation period
(`Ledger.Good` = withdrawn + accumulator ≤ Σ exact + 2n atomics ∧ Σ exact ≤ withdrawn + accumulator + w tokens + 4n
atomics). -/
theorem history_bounds (A c : Nat) (hc : c ≤ Dec.ONE) (steps : List LStep) (hok : ∀ st ∈ steps, st.ok) :
    (Ledger.run A c {} steps).Good := Ledger.Good_run A c hc steps {} hok (Ledger.Good_start 0)

/-- A reward update of the model is a `credit` step of that ledger for every recorded delegator. -/
theorem update_is_credit {s s1 : SState} {now : Nat} {v : String} {d : Addr} {vi : ValInfo} {vo : Validator}
    {sh : Shares} (hi : SInv s) (h : updateRewards s now v = .ok s1)
    (hvi : get? s.vinfo v = some vi) (hvo : s.validator? v = some vo) (hsh : get? s.stakes (d, v) = some sh)
    (hlt : vi.last < now) (hS : vi.stake ≠ 0) :
    (curShares s1 d v).rewards.atomics = sh.rewards.atomics +
        creditOf vi.stake s.info.apr.atomics vo.commission.atomics sh.stake.atomics (elapsed now vi.last) ∧
    (curShares s1 d v).stake = sh.stake := by
  obtain ⟨r1, _⟩ := updateRewards_pair hi h hsh hvi hvo
  rw [curShares_of_get? r1, if_pos rfl]
  exact ⟨rfl, rfl⟩

/-- Every run of the model is a run of the reward ledger of the pair: invariant, validator, shown delegation, the two
bounds and "ledger accumulator = accumulator of the record" persist along any history that does not re-stake the pair. -/
theorem model_run_is_ledger_run {cfg : Cfg} {d : Addr} {v : String} {vo : Validator} (ops : List Op) (c : Chain)
    (l : Ledger) (hi : Inv cfg c) (hok : ∀ op ∈ ops, op.okFor cfg ∧ ¬ op.restakes d v)
    (hvo : c.st.validator? v = some vo) (hshown : ShownAll cfg d v c ops) (hg : l.Good)
    (hacc : l.acc = (curShares c.st d v).rewards.atomics) :
    Inv cfg (runAll cfg c ops).1 ∧ (runAll cfg c ops).1.st.validator? v = some vo ∧
    1 ≤ (stakeOf (runAll cfg c ops).1.st d v).floor ∧ (track cfg d v c ops l).Good ∧
    (track cfg d v c ops l).acc = (curShares (runAll cfg c ops).1.st d v).rewards.atomics :=
  have t := Tracks_runAll ops c l ⟨hi, hvo, hshown.head, hg, hacc⟩ hok hshown
  ⟨t.inv, t.val, t.shown, t.good, t.acc⟩

/-- What the ledger books as `paid` at `d`'s own withdrawal is exactly what the bank mints to `d`'s withdraw address. -/
theorem withdrawals_mint_paid {cfg : Cfg} {c c' : Chain} {d : Addr} {v : String} {vo : Validator} {l : Ledger}
    (hi : Inv cfg c) (hvo : c.st.validator? v = some vo) (hs : 1 ≤ (stakeOf c.st d v).floor)
    (hacc : l.acc = (curShares c.st d v).rewards.atomics) (hrun : (Op.withdraw d v).run cfg c = .ok c') :
    (trackStep cfg d v c (.withdraw d v) l).w = l.w + 1 ∧
    Bank.mint c.bank (withdrawAddr c.st d)
      [⟨c.st.info.bondedDenom, (trackStep cfg d v c (.withdraw d v) l).paid - l.paid⟩] = some c'.bank := by
  obtain ⟨sh, vi, hp, hc⟩ := PairAt_of_shown hi hvo hs
  rw [trackStep_own_withdraw l hrun]
  refine ⟨congrArg (· + 1) (creditL_paid_w hp l).2, ?_⟩
  -- the withdrawal step books the whole tokens of the credited accumulator
  show Bank.mint _ _ [⟨_, (creditL c d v l).paid + (creditL c d v l).acc / Dec.ONE - l.paid⟩] = _
  rw [(creditL_paid_w hp l).1, creditL_acc hp, hacc, hc, Nat.add_sub_cancel_left]
  exact withdrawRewards_pair_mint hi.sinv hp hrun

/-- C15 upper and lower bound for every run of the model (full statement in the header): `lE` is the ledger of the pair
along `ops` plus the virtual update of the final query; the query shows `⌊lE.acc / 10^18⌋`. -/
theorem history_of_model {cfg : Cfg} {d : Addr} {v : String} {vo : Validator} (ops : List Op) (c : Chain)
    (hi : Inv cfg c) (hok : ∀ op ∈ ops, op.okFor cfg ∧ ¬ op.restakes d v) (hvo : c.st.validator? v = some vo)
    (hshown : ShownAll cfg d v c ops) (hvalid : cfg.valid d = true) :
    ∃ lE : Ledger,
      lE = creditL (runAll cfg c ops).1 d v
            (track cfg d v c ops { acc := (curShares c.st d v).rewards.atomics,
                                   exact := (curShares c.st d v).rewards.atomics * P0 }) ∧
      queryDelegation cfg (runAll cfg c ops).1 d v =
        .ok (some ((stakeOf (runAll cfg c ops).1.st d v).floor, lE.acc / Dec.ONE)) ∧
      (lE.paid + lE.acc / Dec.ONE) * Dec.ONE * P0 ≤ lE.exact + 2 * lE.n * P0 ∧
      lE.exact < ((lE.paid + lE.acc / Dec.ONE + lE.w + 1) * Dec.ONE + 4 * lE.n) * P0 := by
  have t := Tracks_runAll ops c _ ⟨hi, hvo, hshown.head, Ledger.Good_start _, rfl⟩ hok hshown
  obtain ⟨sh, vi, hp, _⟩ := PairAt_of_shown t.inv t.val t.shown
  -- the query's own update is one more credit step; what it shows is the floor of the accumulator
  have gF := Ledger.Good_creditL t.inv hp _ t.good
  exact ⟨_, rfl, Tracks.queryDelegation_eq t hvalid,
    Arith.shown_bounds Dec.ONE_pos P0_pos gF.1 gF.2⟩

/-- a history for `history_of_model`: after `d1` delegated 10 to `v1` — a third of a year, another delegator joins,
a 10 % slash, another third, `d1` withdraws, changes its withdraw address, time passes, the other delegator leaves -/
def exHistory : List Op :=
  [.advance 10512000000000000, .delegate "d2" "v1" ⟨"TOKEN", 5⟩, .slash "v1" ⟨100000000000000000⟩, .advance 10512000000000000,
   .withdraw "d1" "v1", .setWithdraw "d1" "d2", .advance 10512001000000000, .undelegate "d2" "v1" ⟨"TOKEN", 1⟩, .advance 61000000000]

def exStart : Chain := (runAll exCfg exChain [.delegate "d1" "v1" ⟨"TOKEN", 10⟩]).1

example : Inv exCfg exStart :=
  (Inv_runAll [.delegate "d1" "v1" ⟨"TOKEN", 10⟩] exChain exChain_inv (by intro op h; simp at h; subst h; simp [Op.okFor, exCfg])).1
example : ShownAll exCfg "d1" "v1" exStart exHistory := by decide +kernel
example : ∀ op ∈ exHistory, op.okFor exCfg ∧ ¬ op.restakes "d1" "v1" := by
  intro op h
  simp only [exHistory, List.mem_cons, List.mem_nil_iff, or_false] at h
  rcases h with rfl | rfl | rfl | rfl | rfl | rfl | rfl | rfl | rfl <;> simp [Op.okFor, Op.restakes, exCfg]
/-- its ledger: 6 tokens paid by one withdrawal, 3.000017… pending, 4 crediting updates (the final query's included) -/
example : (let l := creditL (runAll exCfg exStart exHistory).1 "d1" "v1" (track exCfg "d1" "v1" exStart exHistory {})
    (l.acc, l.paid, l.w, l.n)) = (3000017694063926939, 6, 1, 4) := by decide +kernel
example : queryDelegation exCfg (runAll exCfg exStart exHistory).1 "d1" "v1" = .ok (some (9, 3)) := by decide +kernel

/-- 10 tokens at 100 % for one year show a reward of 10; the withdrawal pays 10 and resets it -/
example : queryDelegation exCfg (runAll exCfg exChain [.delegate "d1" "v1" ⟨"TOKEN", 10⟩, .advance 31536000000000000]).1 "d1" "v1"
    = .ok (some (10, 10)) := by decide
example : Bank.queryBalance (runAll exCfg exChain [.delegate "d1" "v1" ⟨"TOKEN", 10⟩, .advance 31536000000000000,
    .withdraw "d1" "v1"]).1.bank "d1" "TOKEN" = 100 := by decide +kernel
/-- the fixed-point shortfall of R7: one token for a year in three updates accumulates 0.999999999999999999 -/
example : (curShares (runAll exCfg exChain [.delegate "d1" "v1" ⟨"TOKEN", 1⟩, .advance 10512000000000000, .slash "v1" ⟨0⟩,
    .advance 10512000000000000, .slash "v1" ⟨0⟩, .advance 10512000000000000, .slash "v1" ⟨0⟩]).1.st "d1" "v1").rewards.atomics
    = 999999999999999999 := by decide +kernel
example : (step exCfg (runAll exCfg exChain [.delegate "d1" "v1" ⟨"TOKEN", 1⟩]).1 (.withdraw "d1" "v1")).2 = .err := by
  decide
/-- the old F1 shape (validator total 0 under a shown delegation) is gone: 3 tokens, two 10 % slashes, 2 undelegated —
0.43 tokens remain (nothing shown), and with only 1 undelegated the shown token earns its 2.86 tokens in two years -/
example : queryDelegation exCfg (runAll exCfg exChain [.delegate "d1" "v1" ⟨"TOKEN", 3⟩,
    .slash "v1" ⟨100000000000000000⟩, .slash "v1" ⟨100000000000000000⟩, .undelegate "d1" "v1" ⟨"TOKEN", 1⟩,
    .advance 63072000000000000]).1 "d1" "v1" = .ok (some (1, 2)) := by decide +kernel
example : (Ledger.run 1000000000000000000 0 {} [.credit ⟨1, 1000000000000000000, 10512000⟩,
    .credit ⟨1, 1000000000000000000, 10512000⟩, .credit ⟨1, 1000000000000000000, 10512000⟩, .withdraw]).paid = 0 := by
  decide

end CwMt.C15
