import CwMt.Proofs.EngineB_Engine
import CwMt.Proofs.Engine_App
/-
  C10 — Queries are pure and observe exactly the transaction's current state.
  `query` has no state in its result type (purity is a typing fact of the model: the same snapshot
  gives the same answer and there is nothing to change); what is proved is which snapshot a contract
  is given.
-/
namespace CwMt.C10
open CwMt
variable {E : Type}

/-- The answer of any query is a function of the snapshot alone: equal snapshots, equal answers. -/
theorem query_deterministic (cfg : Config E) (eq : ExtKind → Chain E → Block → Val → Outcome Val)
    (blk : Block) (ch₁ ch₂ : Chain E) (q : Query) (h : ch₁ = ch₂) :
    query cfg eq blk ch₁ q = query cfg eq blk ch₂ q := by rw [h]

/-- A contract runs against the snapshot `ch` it was called on — the enclosing transaction's state at
that moment — and its own window of that state; its in-flight writes are not in the snapshot. -/
theorem snapshot_is_call_state (cfg : Config E) (blk : Block) (ch : Chain E) (addr : Addr) (en : Entry)
    (tr : Trace) (cd : ContractData) (code : Code E)
    (hc : ch.contracts.get? addr = some cd) (hcode : contractCode? cfg cd.codeId = some code) :
    callContract cfg blk ch addr en tr =
      (let own := (ch.cstore.get? addr).getD []
       let res := code.run en (contractEnv blk addr) ch own
       let tr' := tr ++ [{ callee := addr, entry := en, env := contractEnv blk addr, note := res.2 }]
       match res.1 with
       | .ok (resp, own') =>
         if responseOk resp then (.ok (resp, { ch with cstore := ch.cstore.set addr own' }), tr') else (.err, tr')
       | .err => (.err, tr')
       | .panic => (.panic, tr')
       | .outOfFuel => (.outOfFuel, tr')) :=
  EngineB.callContract_eq cfg blk ch addr en tr hc hcode

/-- The snapshot after a completed sub-message is that sub-message's result state; after a failed one
it is the state before it (C02), so no rolled-back effect is observable by a later query. -/
theorem later_calls_see_completed_effects (cfg : Config E) (blk : Block) (fuel : Nat) (ch : Chain E)
    (contract : Addr) (resp : AppResponse) (sm : SubMsg) (rest : List SubMsg) (tr tr₁ : Trace)
    (sr : AppResponse) (ch₁ : Chain E)
    (h : executeSubmsg cfg blk fuel ch contract sm tr = (.ok (sr, ch₁), tr₁)) :
    processResponse cfg blk (fuel + 1) ch contract resp (sm :: rest) tr =
      processResponse cfg blk fuel ch₁ contract
        { events := resp.events ++ sr.events, data := sr.data.orElse fun _ => resp.data } rest tr₁ := by
  rw [Engine.processResponse_succ_cons, h]

/-- Bank queries agree with each other on any snapshot. -/
theorem balance_is_entry_of_all (cfg : Config E) (eq : ExtKind → Chain E → Block → Val → Outcome Val)
    (blk : Block) (ch : Chain E) (a d : String) (hv : cfg.validAddr a = true) :
    query cfg eq blk ch (.balance a d) = .ok (.amount (Bank.amountOf (Bank.balance ch.bank a) d)) ∧
    query cfg eq blk ch (.allBalances a) = .ok (.coins (Bank.balance ch.bank a)) :=
  ⟨if_pos hv, if_pos hv⟩

/-- A query issued through `App` after a transaction that did not return `Ok` gets the answer it would have got
before the transaction, whatever the query: the failed transaction is not observable (with C01). -/
theorem app_query_after_failed_tx (cfg : Config E) (eq : ExtKind → Chain E → Block → Val → Outcome Val)
    (blk : Block) (fuel : Nat) (ch : Chain E) (sender : Addr) (msgs : List Msg) (r : Outcome (List AppResponse))
    (ch' : Chain E) (tr : Trace) (h : App.executeMulti cfg blk fuel ch sender msgs = (r, ch', tr))
    (hr : r.isOk = false) (q : Query) : query cfg eq blk ch' q = query cfg eq blk ch q := by
  rw [Engine.atomically_not_ok h hr]

/-- … and after a successful one it is evaluated on exactly the state the message list computed (nothing of it is
missing from what `App`-level queries see). -/
theorem app_query_after_ok_tx (cfg : Config E) (eq : ExtKind → Chain E → Block → Val → Outcome Val)
    (blk : Block) (fuel : Nat) (ch : Chain E) (sender : Addr) (msgs : List Msg) (rs : List AppResponse)
    (ch' : Chain E) (tr : Trace) (h : App.executeMulti cfg blk fuel ch sender msgs = (.ok rs, ch', tr)) (q : Query) :
    ∃ chF, App.runMsgs cfg blk fuel ch sender msgs [] = (.ok (rs, chF), tr) ∧
      query cfg eq blk ch' q = query cfg eq blk chF q :=
  ⟨ch', Engine.atomically_ok h, rfl⟩

/-- A raw query and a smart query of contract `c` read the same key space: the raw query returns the entry of the
very store that the contract's `query` entry point is handed (absent = empty bytes). -/
theorem raw_and_smart_read_one_store (cfg : Config E) (eq : ExtKind → Chain E → Block → Val → Outcome Val)
    (blk : Block) (ch : Chain E) (c : String) (k m : Val) (cd : ContractData) (code : Code E)
    (hv : cfg.validAddr c = true) (hc : ch.contracts.get? c = some cd)
    (hcode : contractCode? cfg cd.codeId = some code) :
    query cfg eq blk ch (.wasmRaw c k) = .ok (.bytes ((((ch.cstore.get? c).getD []).get k).getD [])) ∧
    query cfg eq blk ch (.wasmSmart c m) =
      (code.query m (contractEnv blk c) ch ((ch.cstore.get? c).getD [])).map .bytes := by
  refine ⟨if_pos hv, ?_⟩
  rw [Engine.query_wasmSmart, if_neg (by rw [hv]; nofun), hc]
  dsimp only
  rw [hcode]

/-- The state a reply handler (and so every query it makes) sees after a FAILED sub-message is the state from before
that sub-message: nothing the sub-message did, however deep, can be queried (restating C02 for queries). -/
theorem reply_after_failed_sub_queries_old_state (cfg : Config E) (blk : Block) (fuel : Nat) (ch : Chain E)
    (contract : Addr) (sm : SubMsg) (tr tr₁ : Trace)
    (h : execute cfg blk fuel ch contract sm.msg tr = (.err, tr₁)) (hw : wantsReplyOnErr sm.replyOn = true) :
    executeSubmsg cfg blk (fuel + 1) ch contract sm tr = reply cfg blk fuel ch contract ⟨sm.id, sm.payload, .err⟩ tr₁ := by
  rw [Engine.executeSubmsg_succ, h]
  exact if_pos hw

end CwMt.C10
