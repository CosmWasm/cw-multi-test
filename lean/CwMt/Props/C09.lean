import CwMt.Proofs.EngineInv
import CwMt.Proofs.Bank
/-
  C09 — The bank ledger conserves coins and never overdraws.
  Property theorems only; helper lemmas live in CwMt/Proofs/Bank.lean.

  Model: CwMt/Model/Bank.lean (`BankKeeper` of /repo/src/bank.rs + cw-utils `NativeBalance`), amounts in `Nat`
  (the property's quantifier keeps every balance and supply inside the 128-bit range, so `Uint128` arithmetic
  does not overflow).

    `bal st a d`    what `BankQuery::Balance {a, d}` answers          (`Bank.queryBalance`)
    `balance st a`  what `BankQuery::AllBalances {a}` answers         (`Bank.balance`)
    `supply st d`   what `BankQuery::Supply {d}` answers              (`Bank.supply`)
    `total amt d`   the stated amount of denom `d` in a coin list: ALL `d`-entries added up, so repeated denoms
                    accumulate and zero coins contribute nothing     (`Bank.totalOf`; `total_nil`, `total_cons`)
    `NormInv st`    one ledger entry per address (keys strictly sorted, as in the BTreeMap-backed storage) and
                    every stored balance normalised: strictly sorted by denom, no zero amounts, hence no
                    duplicate denoms. It holds for the empty ledger and is preserved by every operation, so it
                    holds of every reachable ledger (`norm_inv`).

  `total`, `bal`, `Reachable` (ledgers obtained from the empty one by init_balance / mint / burn / send) and the
  history vocabulary (`Op`, `run`, `step`, `final`, `credits`, `debits`, `minted`, `burned`) are defined in
  CwMt/Proofs/Bank.lean.

  A failed operation is `none` in the model: there is no new state, the caller keeps the old one (`step`).
-/
namespace CwMt.C09
open CwMt CwMt.Bank

/-! ### `total`: repeated denoms add up, zero coins contribute nothing -/

theorem total_nil (d : String) : total [] d = 0 := rfl

theorem total_cons (c : Coin) (cs : Coins) (d : String) :
    total (c :: cs) d = (if c.denom = d then c.amount else 0) + total cs d := totalOf_cons c cs d

theorem total_zero_iff (amt : Coins) : (∀ d, total amt d = 0) ↔ ∀ c ∈ amt, c.amount = 0 :=
  ⟨fun h c hc => totalOf_eq_zero_iff.mp (h c.denom) c hc rfl,
    fun h _ => totalOf_eq_zero_iff.mpr fun c hc _ => h c hc⟩

/-! ### the invariant `norm_inv` -/

theorem norm_inv_empty : NormInv [] := NormInv_nil

theorem norm_inv_setBalance (st : State) (a : Addr) (cs : Coins) (h : NormInv st) :
    NormInv (setBalance st a cs) := NormInv_setBalance h a cs

theorem norm_inv_mint (st st' : State) (a : Addr) (amt : Coins) (h : NormInv st)
    (hm : mint st a amt = some st') : NormInv st' := (mint_spec h hm).1

theorem norm_inv_burn (st st' : State) (a : Addr) (amt : Coins) (h : NormInv st)
    (hb : burn st a amt = some st') : NormInv st' := (burn_spec h hb).1

theorem norm_inv_send (st st' : State) (frm to : Addr) (amt : Coins) (h : NormInv st)
    (hs : send st frm to amt = some st') : NormInv st' := (run_spec (op := .send frm to amt) h hs).1

/-- every reachable ledger satisfies the invariant -/
theorem norm_inv (st : State) (h : Reachable st) : NormInv st := by
  induction h with
  | empty => exact NormInv_nil
  | init a cs _ ih => exact NormInv_setBalance ih a cs
  | mint a amt _ hm ih => exact (mint_spec ih hm).1
  | burn a amt _ hb ih => exact (burn_spec ih hb).1
  | send a b amt _ hs ih => exact (run_spec (op := .send a b amt) ih hs).1

/-- what the invariant says about one stored balance (= the `AllBalances` answer): strictly sorted by
denom, no zero coin, no denom twice; and such a list is determined by its per-denom amounts -/
theorem norm_inv_balance (st : State) (a : Addr) (h : NormInv st) :
    (balance st a).Pairwise (fun x y => x.denom < y.denom) ∧ (∀ c ∈ balance st a, c.amount ≠ 0) ∧
      ((balance st a).map (·.denom)).Nodup :=
  ⟨(h.norm_balance a).1, (h.norm_balance a).2,
    List.pairwise_map.mpr ((h.norm_balance a).1.imp String.ne_of_lt)⟩

theorem norm_canonical (x y : Coins) (hx : Norm x) (hy : Norm y)
    (h : ∀ d, amountOf x d = amountOf y d) : x = y := norm_ext hx hy h

/-! ### send -/

/-- A transfer moves exactly the stated amount of each denomination from sender to recipient (different
addresses), changes nothing at all for a self-transfer, and changes no other balance. -/
theorem send_exact (st st' : State) (frm to : Addr) (amt : Coins) (hinv : NormInv st)
    (h : send st frm to amt = some st') :
    (frm ≠ to → ∀ d, bal st' frm d + total amt d = bal st frm d ∧ bal st' to d = bal st to d + total amt d) ∧
    (frm = to → balance st' frm = balance st frm) ∧
    (∀ a, a ≠ frm → a ≠ to → balance st' a = balance st a) := by
  -- a self-transfer credits the sender what it debits it, a third address gets neither: `run_balance_eq`
  refine ⟨fun hne d => ?_, fun heq => run_balance_eq (op := .send frm to amt) hinv h fun _ => heq ▸ rfl,
    fun a hf ht => run_balance_eq (op := .send frm to amt) hinv h fun _ =>
      (if_neg (Ne.symm ht)).trans (if_neg (Ne.symm hf)).symm⟩
  have h1 := queryBalance_send hinv h frm d
  have h2 := queryBalance_send hinv h to d
  rw [if_pos rfl, if_neg (Ne.symm hne)] at h1
  rw [if_neg hne, if_pos rfl] at h2
  exact ⟨h1.trans (Nat.zero_add _), h2.trans (Nat.add_comm _ _)⟩

/-- … so the total supply of every denomination is unchanged. -/
theorem send_conserves (st st' : State) (frm to : Addr) (amt : Coins) (hinv : NormInv st)
    (h : send st frm to amt = some st') : ∀ d, supply st' d = supply st d :=
  supply_send hinv h

/-! ### burn, mint -/

theorem burn_exact (st st' : State) (a : Addr) (amt : Coins) (hinv : NormInv st)
    (h : burn st a amt = some st') :
    (∀ d, bal st' a d + total amt d = bal st a d) ∧
    (∀ b, b ≠ a → balance st' b = balance st b) ∧
    (∀ d, supply st' d + total amt d = supply st d) := by
  obtain ⟨_, hq, hs⟩ := burn_spec hinv h
  refine ⟨fun d => ?_, fun b hb => run_balance_eq (op := .burn a amt) hinv h fun _ => (if_neg (Ne.symm hb)).symm, hs⟩
  have := hq a d
  rwa [if_pos rfl] at this

theorem mint_exact (st st' : State) (a : Addr) (amt : Coins) (hinv : NormInv st)
    (h : mint st a amt = some st') :
    (∀ d, bal st' a d = bal st a d + total amt d) ∧
    (∀ b, b ≠ a → balance st' b = balance st b) ∧
    (∀ d, supply st' d = supply st d + total amt d) := by
  obtain ⟨_, hq, hs⟩ := mint_spec hinv h
  exact ⟨fun d => (hq a d).trans (by rw [if_pos rfl]),
    fun b hb => run_balance_eq (op := .mint a amt) hinv h fun _ => if_neg (Ne.symm hb), hs⟩

/-! ### failure: exactly when there is no positive amount or a balance would go below zero -/

theorem fail_iff_burn (st : State) (a : Addr) (amt : Coins) (hinv : NormInv st) :
    burn st a amt = none ↔ (∀ c ∈ amt, c.amount = 0) ∨ ∃ d, bal st a d < total amt d := by
  rw [← Option.not_isSome_iff_eq_none, burn_isSome_iff hinv, Classical.not_and_iff_not_or_not,
    Classical.not_not, Classical.not_forall]
  simp only [Nat.not_le]

theorem fail_iff_send (st : State) (frm to : Addr) (amt : Coins) (hinv : NormInv st) :
    send st frm to amt = none ↔ (∀ c ∈ amt, c.amount = 0) ∨ ∃ d, bal st frm d < total amt d := by
  rw [← fail_iff_burn st frm amt hinv, ← Option.not_isSome_iff_eq_none, ← Option.not_isSome_iff_eq_none,
    send_isSome]

theorem fail_iff_mint (st : State) (a : Addr) (amt : Coins) :
    mint st a amt = none ↔ ∀ c ∈ amt, c.amount = 0 :=
  Option.map_eq_none_iff.trans normalizeAmount_eq_none_iff

/-- "the normalised amount is empty" is "no coin of the list is positive" -/
theorem normalised_empty_iff (amt : Coins) : normalizeAmount amt = none ↔ ∀ c ∈ amt, c.amount = 0 :=
  normalizeAmount_eq_none_iff

/-- in particular a self-transfer of more than the balance fails (the "credit before debit" mutant) -/
theorem self_send_beyond_balance_fails (st : State) (a : Addr) (amt : Coins) (d : String) (hinv : NormInv st)
    (h : bal st a d < total amt d) : send st a a amt = none :=
  (fail_iff_send st a a amt hinv).mpr (Or.inr ⟨d, h⟩)

/-- a failed operation changes nothing: it yields no state, and `step` keeps the old one -/
theorem fail_changes_nothing (st : State) (op : Op) (h : run st op = none) : step st op = st :=
  congrArg (Option.getD · st) h

/-- the checked subtraction never truncates: a successful debit was covered in every denomination -/
theorem no_truncation (st st' : State) (frm to : Addr) (amt : Coins) (hinv : NormInv st) :
    (burn st frm amt = some st' → ∀ d, total amt d ≤ bal st frm d) ∧
    (send st frm to amt = some st' → ∀ d, total amt d ≤ bal st frm d) := by
  refine ⟨fun h => ((burn_isSome_iff hinv).mp (h ▸ rfl)).2, fun h => ((burn_isSome_iff hinv).mp ?_).2⟩
  rw [← send_isSome, h]; rfl

/-! ### the three queries agree -/

/-- `Balance {a, d}` is the `d` entry of `AllBalances {a}` (0 if there is none), and — because the stored
list has no duplicate denoms — the sum of all its `d` entries -/
theorem queries_agree_balance (st : State) (a : Addr) (d : String) (hinv : NormInv st) :
    ((∃ c ∈ balance st a, c.denom = d ∧ c.amount = bal st a d) ∨
      ((∀ c ∈ balance st a, c.denom ≠ d) ∧ bal st a d = 0)) ∧
    bal st a d = total (balance st a) d :=
  ⟨amountOf_cases (balance st a) d, hinv.queryBalance_eq_totalOf a d⟩

/-- `Supply {d}` is the sum of `Balance {a, d}` over the accounts of the ledger … -/
theorem queries_agree_supply (st : State) (d : String) (hinv : NormInv st) :
    supply st d = ((st.map (·.1)).map (fun a => bal st a d)).sum :=
  supply_eq_sum_queryBalance hinv _ (List.pairwise_map.mpr (hinv.1.imp String.ne_of_lt))
    (fun _ hp => List.mem_map_of_mem hp) d

/-- … and over any duplicate-free list of addresses that contains all accounts. -/
theorem queries_agree_supply_over (st : State) (as : List Addr) (d : String) (hinv : NormInv st)
    (hnd : as.Nodup) (hall : ∀ p ∈ st, p.1 ∈ as) :
    supply st d = (as.map (fun a => bal st a d)).sum := supply_eq_sum_queryBalance hinv as hnd hall d

/-! ### histories -/

/-- After any history of mints, burns and sends (failed operations leave the ledger unchanged), the
balance of `(a, d)` is Σ credits − Σ debits of the successful operations on top of the initial balance;
written without subtraction. -/
theorem history (st : State) (ops : List Op) (a : Addr) (d : String) (hinv : NormInv st) :
    bal (final st ops) a d + debits st ops a d = credits st ops a d + bal st a d :=
  (history_spec hinv ops).2.1 a d

/-- the same for the supply: only successful mints and burns move it -/
theorem history_supply (st : State) (ops : List Op) (d : String) (hinv : NormInv st) :
    supply (final st ops) d + burned st ops d = minted st ops d + supply st d :=
  (history_spec hinv ops).2.2 d

theorem history_norm_inv (st : State) (ops : List Op) (hinv : NormInv st) : NormInv (final st ops) :=
  (history_spec hinv ops).1

/-! ### non-vacuity -/

/-- repeated denoms and a zero coin in one message; a never-seen recipient -/
example : send [("a", [⟨"u", 5⟩, ⟨"x", 1⟩])] "a" "b" [⟨"u", 2⟩, ⟨"x", 0⟩, ⟨"u", 1⟩]
    = some [("a", [⟨"u", 2⟩, ⟨"x", 1⟩]), ("b", [⟨"u", 3⟩])] := by decide
example : NormInv [("a", [⟨"u", 5⟩, ⟨"x", 1⟩])] := by decide
example : ¬ NormInv [("a", [⟨"x", 5⟩, ⟨"u", 1⟩])] := by decide
example : total [⟨"u", 2⟩, ⟨"x", 0⟩, ⟨"u", 1⟩] "u" = 3 := by decide
/-- a self-transfer within the balance succeeds and changes nothing; beyond the balance it fails -/
example : send [("a", [⟨"u", 5⟩])] "a" "a" [⟨"u", 5⟩] = some [("a", [⟨"u", 5⟩])] := by decide
example : send [("a", [⟨"u", 5⟩])] "a" "a" [⟨"u", 3⟩, ⟨"u", 3⟩] = none := by decide
/-- no positive amount: fails -/
example : send [("a", [⟨"u", 5⟩])] "a" "b" [⟨"u", 0⟩] = none := by decide
example : mint [] "a" [] = none := by decide
example : burn [("a", [⟨"u", 5⟩])] "a" [⟨"x", 1⟩] = none := by decide
/-- burning everything leaves an (empty) entry; the supply follows -/
example : burn [("a", [⟨"u", 5⟩]), ("b", [⟨"u", 1⟩])] "a" [⟨"u", 5⟩] = some [("a", []), ("b", [⟨"u", 1⟩])] := by decide
example : supply [("a", [⟨"u", 5⟩]), ("b", [⟨"u", 1⟩, ⟨"x", 2⟩])] "u" = 6 := by decide
example : mint [("b", [⟨"u", 1⟩])] "a" [⟨"x", 2⟩, ⟨"u", 1⟩, ⟨"x", 2⟩] = some [("a", [⟨"u", 1⟩, ⟨"x", 4⟩]), ("b", [⟨"u", 1⟩])] := by decide
/-- a history with a failing operation in the middle -/
example : final [] [.mint "a" [⟨"u", 5⟩], .send "a" "b" [⟨"u", 7⟩], .send "a" "b" [⟨"u", 2⟩], .burn "b" [⟨"u", 1⟩]]
    = [("a", [⟨"u", 3⟩]), ("b", [⟨"u", 1⟩])] := by decide
example : credits [] [.mint "a" [⟨"u", 5⟩], .send "a" "b" [⟨"u", 7⟩], .send "a" "b" [⟨"u", 2⟩], .burn "b" [⟨"u", 1⟩]] "b" "u" = 2 ∧
    debits [] [.mint "a" [⟨"u", 5⟩], .send "a" "b" [⟨"u", 7⟩], .send "a" "b" [⟨"u", 2⟩], .burn "b" [⟨"u", 1⟩]] "b" "u" = 1 := by decide

end CwMt.C09

/-! ### contract-initiated transfers: no execution of any message tree creates coins -/
namespace CwMt.C09
open CwMt

/-- modules other than bank and wasm leave the ledger alone (in the simulator they move coins only
through bank messages routed back through the router) -/
def ExtBankFrame {E : Type} (cfg : Config E) : Prop :=
  (∀ k ch blk s p r ch', cfg.extExec k ch blk s p = .ok (r, ch') → ch'.bank = ch.bank) ∧
  (∀ ch blk p r ch', cfg.extSudo ch blk p = .ok (r, ch') → ch'.bank = ch.bank)

/-- For every message (any nesting of contract calls, funds attached to execute / instantiate, bank
sub-messages, whatever the contracts do): the ledger stays in normal form and the total supply of
every denomination never grows — only `BankSudo::Mint` creates coins. -/
theorem engine_creates_no_coins {E : Type} (cfg : Config E) (hb : ExtBankFrame cfg) (blk : Block) (fuel : Nat)
    (ch ch' : Chain E) (sender : Addr) (m : Msg) (tr tr' : Trace) (r : AppResponse)
    (hinv : Bank.NormInv ch.bank)
    (h : execute cfg blk fuel ch sender m tr = (.ok (r, ch'), tr')) :
    Bank.NormInv ch'.bank ∧ ∀ d, Bank.supply ch'.bank d ≤ Bank.supply ch.bank d := by
  obtain ⟨_, _, hR⟩ := EngineInv.execute_related (EngineInv.bankInv cfg blk hb.1) h
  exact hR hinv

/-- …and a tree without burn messages at the top level that merely transfers conserves it exactly:
a plain send between two accounts through the engine leaves every supply unchanged. -/
theorem engine_send_conserves {E : Type} (cfg : Config E) (blk : Block) (fuel : Nat) (ch ch' : Chain E)
    (sender : Addr) (to : String) (amt : Coins) (tr tr' : Trace) (r : AppResponse)
    (hinv : Bank.NormInv ch.bank)
    (h : execute cfg blk fuel ch sender (.bankSend to amt) tr = (.ok (r, ch'), tr')) :
    ∀ d, Bank.supply ch'.bank d = Bank.supply ch.bank d := by
  cases fuel with
  | zero => rw [Engine.execute_zero] at h; cases h
  | succ fuel =>
    rw [Engine.execute_succ_bankSend] at h
    obtain ⟨b, rfl, ⟨_, _, hm, hs⟩ | ⟨_, hm, _⟩⟩ := EngineB.bankExecute_ok (Prod.mk.inj h).1
    · cases hm; exact Bank.supply_send hinv hs
    · cases hm

end CwMt.C09
