import CwMt.Model.Registry
import CwMt.Proofs.EngineB_Wire
import CwMt.Proofs.EngineB_Registry
import CwMt.Gen.Impure
/-
  C19 — The simulator is deterministic and instances do not interfere.
  A Lean function is deterministic by construction, so "two runs of the model agree" has no content;
  what is proved is the specification of non-interference (running two instances interleaved is
  running each alone) and that generated identifiers are functions of the instance's own state.
  The claim about the *code* (no hidden global state, clock or randomness) is carried by the
  correspondence: every history is run twice on fresh Apps and interleaved with a second App, and all
  transcripts must equal the single pure model run; plus the source scan below (tie T).
-/
namespace CwMt.C19
open CwMt

/-- two instances side by side; an operation addresses one of them -/
def stepTwo {σ ι ο : Type} (step : σ → ι → σ × ο) (s : σ × σ) (op : Bool × ι) : (σ × σ) × ο :=
  if op.1 then let (a, o) := step s.1 op.2; ((a, s.2), o) else let (b, o) := step s.2 op.2; ((s.1, b), o)

def runOne {σ ι ο : Type} (step : σ → ι → σ × ο) : σ → List ι → σ × List ο
  | s, [] => (s, [])
  | s, i :: is => let (s', o) := step s i; let (s'', os) := runOne step s' is; (s'', o :: os)

def runTwo {σ ι ο : Type} (step : σ → ι → σ × ο) : σ × σ → List (Bool × ι) → (σ × σ) × List (Bool × ο)
  | s, [] => (s, [])
  | s, op :: ops =>
    let (s', o) := stepTwo step s op
    let (s'', os) := runTwo step s' ops
    (s'', (op.1, o) :: os)

/-- For every interleaving of two histories on two instances, each instance ends in the state, and
produces the outputs, of running its own history alone. -/
theorem interleaving {σ ι ο : Type} (step : σ → ι → σ × ο) (s : σ × σ) (ops : List (Bool × ι)) :
    let own (b : Bool) := (ops.filter (·.1 == b)).map (·.2)
    (runTwo step s ops).1.1 = (runOne step s.1 (own true)).1 ∧
    (runTwo step s ops).1.2 = (runOne step s.2 (own false)).1 ∧
    ((runTwo step s ops).2.filter (·.1 == true)).map (·.2) = (runOne step s.1 (own true)).2 ∧
    ((runTwo step s ops).2.filter (·.1 == false)).map (·.2) = (runOne step s.2 (own false)).2 :=
  EngineB.interleaving step s ops

/-- generated code ids depend only on the instance's own registry -/
theorem code_id_from_registry (st₁ st₂ : Registry.State) (c : Addr) (k : Nat → Val) (h : st₁.codes = st₂.codes) :
    (Registry.storeCode st₁ c k).map (·.1) = (Registry.storeCode st₂ c k).map (·.1) := by
  rw [EngineB.storeCode_eq, EngineB.storeCode_eq, h]
  cases Registry.nextCodeId st₂.codes <;> rfl

/-- Tie to the sources (regenerated on every run by checklib/scan_impure.py): the non-test code of the crate
spells no process- or thread-global mutable state (`static mut`, `thread_local!`, lazily initialised or
interior-mutable statics, atomics, locks), no clock, no randomness, no environment access, no hash-ordered
container, no `unsafe`; the only interior mutability is per-instance (`custom_handler.rs`). This is the
premise under which a safe-Rust `App` is a function of its inputs, as the model is. -/
theorem no_ambient_state_in_sources : Gen.Impure.findings = [] :=
  rfl

end CwMt.C19
