import CwMt.Proofs.Engine_App
import CwMt.Proofs.Engine_Fuel
import CwMt.Proofs.EngineTx
import CwMt.Model.TxSite
import CwMt.Gen.TxSites
import CwMt.Proofs.Executor
import CwMt.Proofs.Layout
import CwMt.Proofs.Json
import CwMt.Proofs.FlatChain
/-
  C01 — Top-level transactions are atomic: all-or-nothing, in order.
  Model: CwMt/Model/Engine.lean (`App.executeMulti`, `App.execute`, `App.sudo`, `App.wasmSudo`,
  `App.runMsgs`). The engine is written in value semantics (a state is produced only on `ok`), which
  C06 (`C06.client_refines`: a client of the overlay sees an ordered map) and the correspondence harness justify for the real
  write-cache machinery; the theorems below are what a caller of the four entry points can rely on,
  for every chain state, every contract behaviour (contracts are arbitrary functions), every module
  behaviour and every fuel value.
-/
namespace CwMt.C01
open CwMt
variable {E : Type}

/-! ### all-or-nothing -/

theorem atomic_execute_multi (cfg : Config E) (blk : Block) (fuel : Nat) (ch : Chain E) (sender : Addr)
    (msgs : List Msg) (r : Outcome (List AppResponse)) (ch' : Chain E) (tr : Trace)
    (h : App.executeMulti cfg blk fuel ch sender msgs = (r, ch', tr)) (hr : r.isOk = false) : ch' = ch :=
  Engine.atomically_not_ok h hr

theorem atomic_execute (cfg : Config E) (blk : Block) (fuel : Nat) (ch : Chain E) (sender : Addr)
    (m : Msg) (r : Outcome AppResponse) (ch' : Chain E) (tr : Trace)
    (h : App.execute cfg blk fuel ch sender m = (r, ch', tr)) (hr : r.isOk = false) : ch' = ch :=
  Engine.app_execute_not_ok h hr

theorem atomic_sudo (cfg : Config E) (blk : Block) (fuel : Nat) (ch : Chain E) (m : SudoMsg)
    (r : Outcome AppResponse) (ch' : Chain E) (tr : Trace)
    (h : App.sudo cfg blk fuel ch m = (r, ch', tr)) (hr : r.isOk = false) : ch' = ch :=
  Engine.atomically_not_ok h hr

theorem atomic_wasm_sudo (cfg : Config E) (blk : Block) (fuel : Nat) (ch : Chain E) (c : Addr) (m : Val)
    (r : Outcome AppResponse) (ch' : Chain E) (tr : Trace)
    (h : App.wasmSudo cfg blk fuel ch c m = (r, ch', tr)) (hr : r.isOk = false) : ch' = ch :=
  Engine.atomically_not_ok h hr

/-- On `ok` nothing is dropped: the persisted state is the state the whole message list computed. -/
theorem ok_persists (cfg : Config E) (blk : Block) (fuel : Nat) (ch : Chain E) (sender : Addr)
    (msgs : List Msg) (rs : List AppResponse) (ch' : Chain E) (tr : Trace)
    (h : App.executeMulti cfg blk fuel ch sender msgs = (.ok rs, ch', tr)) :
    App.runMsgs cfg blk fuel ch sender msgs [] = (.ok (rs, ch'), tr) :=
  Engine.atomically_ok h

/-! ### in order, each seeing its predecessors' effects, one response per message -/

theorem multi_length (cfg : Config E) (blk : Block) (fuel : Nat) (ch : Chain E) (sender : Addr)
    (msgs : List Msg) (tr : Trace) (rs : List AppResponse) (ch' : Chain E) (tr' : Trace)
    (h : App.runMsgs cfg blk fuel ch sender msgs tr = (.ok (rs, ch'), tr')) : rs.length = msgs.length := by
  induction msgs generalizing ch tr rs with
  | nil => cases h; rfl
  | cons m ms ih =>
    obtain ⟨r, rs', ch₁, tr₁, _, h₂, rfl⟩ := Engine.runMsgs_cons_ok h
    exact congrArg (· + 1) (ih ch₁ tr₁ rs' h₂)

/-- Running `ms₁ ++ ms₂` is running `ms₁`, then `ms₂` on the resulting state (responses concatenated). -/
theorem multi_in_order_ok (cfg : Config E) (blk : Block) (fuel : Nat) (ch : Chain E) (sender : Addr)
    (ms₁ ms₂ : List Msg) (tr : Trace) (rs₁ : List AppResponse) (ch₁ : Chain E) (tr₁ : Trace)
    (h : App.runMsgs cfg blk fuel ch sender ms₁ tr = (.ok (rs₁, ch₁), tr₁)) :
    App.runMsgs cfg blk fuel ch sender (ms₁ ++ ms₂) tr =
      (match App.runMsgs cfg blk fuel ch₁ sender ms₂ tr₁ with
       | (.ok (rs₂, ch₂), tr₂) => (.ok (rs₁ ++ rs₂, ch₂), tr₂)
       | (.err, tr₂) => (.err, tr₂)
       | (.panic, tr₂) => (.panic, tr₂)
       | (.outOfFuel, tr₂) => (.outOfFuel, tr₂)) := by
  rw [Engine.runMsgs_append, h]
  rfl

/-- The first failing message aborts the whole list with that failure. -/
theorem multi_first_error_aborts (cfg : Config E) (blk : Block) (fuel : Nat) (ch : Chain E) (sender : Addr)
    (ms₁ ms₂ : List Msg) (tr : Trace) (o : Outcome (List AppResponse × Chain E)) (tr₁ : Trace)
    (h : App.runMsgs cfg blk fuel ch sender ms₁ tr = (o, tr₁)) (ho : o.isOk = false) :
    App.runMsgs cfg blk fuel ch sender (ms₁ ++ ms₂) tr = (o, tr₁) := by
  rw [Engine.runMsgs_append, h]
  cases o with
  | ok p => cases ho
  | _ => rfl

/-! ### the fuel of the model is an artefact: once a result is reached, more fuel changes nothing -/

theorem fuel_irrelevant (cfg : Config E) (blk : Block) (fuel k : Nat) (ch : Chain E) (sender : Addr)
    (m : Msg) (tr : Trace) (r : Outcome (AppResponse × Chain E)) (tr' : Trace)
    (h : execute cfg blk fuel ch sender m tr = (r, tr')) (hr : r ≠ .outOfFuel) :
    execute cfg blk (fuel + k) ch sender m tr = (r, tr') :=
  ((Engine.fuel_le cfg blk (Nat.le_add_right fuel k)).execute ch sender m tr (by rw [h]; exact hr)).trans h

/-! ### the same entry points as the Rust code runs them: writing as they go, returning early on `Err`

`CwMt/Model/EngineTx.lean` is the engine with in-place writes: a failing step leaves whatever it (or
anything before it) had already written in the storage it was handed, and only `transactional` — at
the entry point, around every sub-message and around every contract call — ever drops writes. `Dirt`
(what failing contracts and modules leave behind) is arbitrary. -/

/-- `App::execute_multi` run imperatively gives exactly the outcome, the trace **and the persisted
state** of the value-semantics engine, whatever was written before the failure. -/
theorem imperative_execute_multi (cfg : Config E) (d : Dirt E) (blk : Block) (fuel : Nat) (ch : Chain E)
    (sender : Addr) (msgs : List Msg) :
    AppI.executeMulti cfg d blk fuel ch sender msgs = App.executeMulti cfg blk fuel ch sender msgs := by
  delta AppI.executeMulti App.executeMulti
  rw [EngineTx.transactionalI_eq_atomically, EngineTx.forget_runMsgsI]

theorem imperative_sudo (cfg : Config E) (d : Dirt E) (blk : Block) (fuel : Nat) (ch : Chain E) (m : SudoMsg) :
    AppI.sudo cfg d blk fuel ch m = App.sudo cfg blk fuel ch m := by
  delta AppI.sudo App.sudo
  rw [EngineTx.transactionalI_eq_atomically, EngineTx.forget_routerSudoI]

theorem imperative_wasm_sudo (cfg : Config E) (d : Dirt E) (blk : Block) (fuel : Nat) (ch : Chain E)
    (c : Addr) (m : Val) :
    AppI.wasmSudo cfg d blk fuel ch c m = App.wasmSudo cfg blk fuel ch c m := by
  delta AppI.wasmSudo App.wasmSudo
  rw [EngineTx.transactionalI_eq_atomically, EngineTx.forget_wasmSudoI]

/-- All-or-nothing for the imperative engine: a failed `execute_multi` persists nothing, although the
loop inside it did write (see `dirt_is_real`). -/
theorem imperative_atomic (cfg : Config E) (d : Dirt E) (blk : Block) (fuel : Nat) (ch : Chain E)
    (sender : Addr) (msgs : List Msg) (r : Outcome (List AppResponse)) (ch' : Chain E) (tr : Trace)
    (h : AppI.executeMulti cfg d blk fuel ch sender msgs = (r, ch', tr)) (hr : r.isOk = false) : ch' = ch :=
  EngineTx.imperative_atomic cfg d blk fuel ch sender msgs r ch' tr h hr

/-- The message loop without its enclosing `transactional` is *not* atomic: a message list whose second
message fails returns `err` with the first message's transfer still in the storage. (Non-vacuity of the
theorems above: the dirt they discard exists.) -/
theorem dirt_is_real :
    ∃ (cfg : Config Unit) (d : Dirt Unit) (blk : Block) (fuel : Nat) (ch : Chain Unit) (sender : Addr)
      (msgs : List Msg) (ch' : Chain Unit) (tr : Trace),
      AppI.runMsgsI cfg d blk fuel ch sender msgs [] = (.err, ch', tr) ∧ ch'.bank ≠ ch.bank :=
  EngineTx.dirt_is_real

/-- Tie to the sources (regenerated on every run by checklib/tr_tx.py): non-test code of app.rs / wasm.rs
creates write caches at exactly the places where `CwMt/Model/EngineTx.lean` has `transactionalI` — the three
entry points, once around every sub-message (with both `reply` calls outside, on the dispatcher's storage)
and once around every contract call (the querier reading the storage beneath). -/
theorem tx_sites_as_modelled : Gen.Tx.sites = expectedTxSites :=
  rfl


/-! ### the `Executor` helpers built on `execute` (executor.rs)

`instantiate_contract`, `instantiate2_contract` and `execute_contract` parse the response data AFTER `execute` has
committed the transaction; `migrate_contract` and `send_tokens` are `execute` of one message. The parsers are
the cw-utils ones transcribed in `CwMt/Model/Executor.lean`; they accept everything the encoders of
`CwMt/Model/Wire.lean` produce (for responses shorter than 2^63 bytes and a non-empty contract address), so a
helper that does not return `Ok` has persisted nothing. -/

theorem helper_instantiate_atomic (cfg : Config E) (hg : ExecutorP.GenNonEmpty cfg) (blk : Block) (fuel : Nat)
    (ch : Chain E) (s : Addr) (codeId : Nat) (m : Val) (funds : Coins) (label : String) (admin : Option String)
    (salt : Option Val)
    (hsize : ∀ r c t, App.execute cfg blk fuel ch s (.wasmInstantiate admin codeId m funds label salt) = (.ok r, c, t) →
      (r.data.getD []).length < 128 ^ 9)
    (o : Outcome (List UInt8)) (ch' : Chain E) (tr : Trace)
    (h : Executor.instantiateContract cfg blk fuel ch s codeId m funds label admin salt = (o, ch', tr))
    (ho : o.isOk = false) : ch' = ch := by
  obtain ⟨o₁, hx, hok, _⟩ := ExecutorP.instantiateContract_result hg hsize h
  exact Engine.app_execute_not_ok hx (hok.trans ho)

theorem helper_instantiate_returns_address (cfg : Config E) (hg : ExecutorP.GenNonEmpty cfg) (blk : Block) (fuel : Nat)
    (ch : Chain E) (s : Addr) (codeId : Nat) (m : Val) (funds : Coins) (label : String) (admin : Option String)
    (salt : Option Val)
    (hsize : ∀ r c t, App.execute cfg blk fuel ch s (.wasmInstantiate admin codeId m funds label salt) = (.ok r, c, t) →
      (r.data.getD []).length < 128 ^ 9)
    (a : List UInt8) (ch' : Chain E) (tr : Trace)
    (h : Executor.instantiateContract cfg blk fuel ch s codeId m funds label admin salt = (.ok a, ch', tr)) :
    ∃ addr ch₀ r, registerContract cfg ch codeId s admin label blk.height salt = .ok (addr, ch₀) ∧
      a = addr.toUTF8.toList ∧
      App.execute cfg blk fuel ch s (.wasmInstantiate admin codeId m funds label salt) = (.ok r, ch', tr) := by
  obtain ⟨o₁, hx, hok, haddr⟩ := ExecutorP.instantiateContract_result hg hsize h
  cases o₁ with
  | ok r =>
    obtain ⟨addr, ch₀, hreg, ha⟩ := haddr r rfl
    cases ha
    exact ⟨addr, ch₀, r, hreg, rfl, hx⟩
  | _ => cases hok

theorem helper_execute_atomic (cfg : Config E) (blk : Block) (fuel : Nat) (ch : Chain E) (s : Addr)
    (contract : String) (m : Val) (funds : Coins)
    (hsize : ∀ r c t, App.execute cfg blk fuel ch s (.wasmExecute contract m funds) = (.ok r, c, t) →
      (r.data.getD []).length < 128 ^ 9)
    (o : Outcome AppResponse) (ch' : Chain E) (tr : Trace)
    (h : Executor.executeContract cfg blk fuel ch s contract m funds = (o, ch', tr)) (ho : o.isOk = false) :
    ch' = ch := by
  obtain ⟨o₁, hx, hok⟩ := ExecutorP.executeContract_result hsize h
  exact Engine.app_execute_not_ok hx (hok.trans ho)

theorem helper_migrate_atomic (cfg : Config E) (blk : Block) (fuel : Nat) (ch : Chain E) (s : Addr)
    (contract : String) (m : Val) (newCodeId : Nat) (o : Outcome AppResponse) (ch' : Chain E) (tr : Trace)
    (h : Executor.migrateContract cfg blk fuel ch s contract m newCodeId = (o, ch', tr)) (ho : o.isOk = false) :
    ch' = ch :=
  Engine.app_execute_not_ok h ho

theorem helper_send_tokens_atomic (cfg : Config E) (blk : Block) (fuel : Nat) (ch : Chain E) (s : Addr)
    (recipient : String) (amount : Coins) (o : Outcome AppResponse) (ch' : Chain E) (tr : Trace)
    (h : Executor.sendTokens cfg blk fuel ch s recipient amount = (o, ch', tr)) (ho : o.isOk = false) :
    ch' = ch :=
  Engine.app_execute_not_ok h ho

/-- The non-emptiness hypothesis is needed, not a convenience: with an empty contract address (only a custom
`AddressGenerator` can hand one out) and non-empty data, the encoder omits field 1 and the cw-utils parser rejects
the response of the already committed transaction. Replayed on the real code (DESIGN.md 0.7): `instantiate_contract`
returns `Err("… invalid field #2 for field #1")` and the storage has changed. -/
theorem helper_instantiate_needs_nonempty_address :
    parseInstantiateResponseData (encodeInstantiateResponse "" [120]) = none := by
  delta encodeInstantiateResponse
  rw [show ("" : String) = String.ofList [] from rfl, Layout.utf8_ofList]
  decide

/-- the parsers accept what the encoders produce (statement used above; non-vacuity on a concrete response) -/
example : parseInstantiateResponseData (encodeInstantiateResponse "c0" [1, 2]) = some ([99, 48], some [1, 2]) := by
  delta encodeInstantiateResponse
  rw [show ("c0" : String) = String.ofList ['c', '0'] from rfl, Layout.utf8_ofList]
  decide
example : parseExecuteResponseData (encodeExecuteResponse []) = some none := by decide

/-! ### "every byte of storage": the typed state and the bytes kept in the store

The model's chain state is typed (balances, `ContractData`); the root storage holds their JSON text (`cosmwasm_std::to_json_vec` =
serde-json-wasm). `CwMt/Model/Json.lean` transcribes that text and `CwMt/Model/Flat.lean` lists the raw records of a state; the wasm
slices compare them byte for byte with the real root storage (`rawdump`). The theorems below say that nothing is lost in between:
the text reads back as the record it was printed from — for every denomination, label and address string, including quotes,
backslashes, control characters and non-ASCII text — so equal bytes in the store mean equal typed state and vice versa. -/

/-- a stored balance reads back -/
theorem json_balances_roundtrip (cs : Coins) (rest : List Char) :
    Json.parseBalances (Json.balances cs ++ rest) = some (cs, rest) :=
  Json.parseBalances_balances cs rest

/-- a stored `ContractData` reads back -/
theorem json_contract_roundtrip (cd : ContractData) (rest : List Char) :
    Json.parseContract (Json.contract cd ++ rest) = some (cd, rest) :=
  Json.parseContract_contract cd rest

/-- equal bytes under a bank key ⇒ equal balances -/
theorem stored_balance_bytes_injective {a b : Coins} (h : Json.balancesJson a = Json.balancesJson b) : a = b :=
  Json.inj_of_parse Json.parseBalances_balances (Json.toBytes_inj h)

/-- equal bytes under a registry key ⇒ equal contract records -/
theorem stored_contract_bytes_injective {a b : ContractData} (h : Json.contractJson a = Json.contractJson b) : a = b :=
  Json.inj_of_parse Json.parseContract_contract (Json.toBytes_inj h)

/-- not vacuous: a balance with an awkward denomination and a contract without admin -/
example : (Json.parseBalances (Json.balances [⟨"d\"\n", 5⟩, ⟨"é", 0⟩])).map (·.1) = some [⟨"d\"\n", 5⟩, ⟨"é", 0⟩] := by
  rw [← List.append_nil (Json.balances _), json_balances_roundtrip]; rfl

/-! ### the flat store of a typed state (`Flat.flatten`, what `rawdump` prints)

`Flat.FlatWF ch`: no address twice in the ledger, the registry or the map of contract stores, every contract store sorted, contract
addresses of at most 65521 bytes (beyond that the real length prefix panics). -/

/-- the flat store holds exactly the raw records of the typed state -/
theorem flat_store_is_the_records (ch : Chain E) (wf : Flat.FlatWF ch) (k : Key) (v : Val) :
    (Flat.flatten ch).get k = some v ↔ (k, v) ∈ Flat.records ch :=
  Flat.get_flatten_eq_some_iff ch wf k v

/-- under `00 04 bank 00 08 balances ‖ a`: the JSON text of `a`'s balance; nothing for an account the ledger does not list -/
theorem flat_store_bank (ch : Chain E) (wf : Flat.FlatWF ch) (a : Addr) :
    (Flat.flatten ch).get (Flat.bankKey a) = (ch.bank.get? a).map Json.balancesJson :=
  Flat.get_flatten_bankKey ch wf a

/-- under `00 04 wasm 00 09 contracts ‖ a`: the JSON text of `a`'s `ContractData` -/
theorem flat_store_registry (ch : Chain E) (wf : Flat.FlatWF ch) (a : Addr) :
    (Flat.flatten ch).get (Flat.contractKey a) = (ch.contracts.get? a).map Json.contractJson :=
  Flat.get_flatten_contractKey ch wf a

/-- **every byte of storage**: two well-formed typed states with the same flat store agree on every balance, every contract record
and every entry of every contract's store — so "the model's chain state is unchanged" and "the bytes of the bank and wasm
namespaces are unchanged" are the same statement -/
theorem equal_bytes_equal_state (ch ch' : Chain E) (wf : Flat.FlatWF ch) (wf' : Flat.FlatWF ch') (h : Flat.flatten ch = Flat.flatten ch') :
    (∀ a, ch.bank.get? a = ch'.bank.get? a) ∧ (∀ a, ch.contracts.get? a = ch'.contracts.get? a) ∧
    (∀ a k, (Flat.utf8 a).length ≤ 65521 → (ch.cstore.get? a).bind (·.get k) = (ch'.cstore.get? a).bind (·.get k)) := by
  refine ⟨fun a => ?_, fun a => ?_, fun a k ha => ?_⟩
  · have e : (ch.bank.get? a).map Json.balancesJson = (ch'.bank.get? a).map Json.balancesJson := by
      rw [← Flat.get_flatten_bankKey ch wf, h, Flat.get_flatten_bankKey ch' wf']
    exact Option.map_injective (fun _ _ => stored_balance_bytes_injective) e
  · have e : (ch.contracts.get? a).map Json.contractJson = (ch'.contracts.get? a).map Json.contractJson := by
      rw [← Flat.get_flatten_contractKey ch wf, h, Flat.get_flatten_contractKey ch' wf']
    exact Option.map_injective (fun _ _ => stored_contract_bytes_injective) e
  · rw [← Flat.get_flatten_storeKey ch wf a k ha, h, Flat.get_flatten_storeKey ch' wf' a k ha]

/-- the hypothesis `FlatWF` is not wishful: it is what the executable check `Flat.wfCheck` establishes, and the wasm driver runs that
check on every state it flattens (`rawdump` answers `raw-not-wf…` otherwise, which the implementation never prints) -/
theorem flat_wf_is_checked (ch : Chain E) (h : Flat.wfCheck ch = true) : Flat.FlatWF ch :=
  Flat.FlatWF.of_wfCheck h

/-- a state with two accounts, one contract and one stored entry -/
def sampleChain : Chain Unit :=
  { bank := [("a", [⟨"d1", 5⟩]), ("b", [])]
    contracts := [("c", { codeId := 1, creator := "a", admin := none, label := "l", created := 7 })]
    cstore := [("c", [([1], [2])])]
    ext := () }

/-- not vacuous: it is well-formed -/
example : Flat.FlatWF sampleChain where
  bank := by decide
  contracts := by decide
  cstore := by decide
  inner := by
    intro p hp
    have : p = ("c", [([1], [2])]) := by simpa [sampleChain] using hp
    subst this; exact List.pairwise_singleton _ _
  short := by
    intro p hp
    have : p = ("c", [([1], [2])]) := by simpa [sampleChain] using hp
    subst this
    show (Flat.utf8 "c").length ≤ 65521
    rw [Flat.utf8, show "c" = String.ofList ['c'] from rfl, Layout.utf8_ofList]; decide

end CwMt.C01
